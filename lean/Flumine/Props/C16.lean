/-
  C16 — Reported exposure equals the true worst case.  Model: Exposure.lean.
-/
import Flumine.Exposure
import Flumine.Lemmas.Cents
import Flumine.Lemmas.ListAux
import Mathlib.Tactic.Linarith
import Mathlib.Tactic.Ring
namespace Flumine.C16

/-! ### Specification: each open bet fills completely at its limit price or not at all -/

/-- profit if the selection wins when the open BACK bets `sb` and open LAY bets `sl` fill -/
def winOutcome (b : Buckets) (sb sl : List (Rat × Rat)) : Rat :=
  sumRisk b.mb - sumRisk b.ml + sumRisk sb - sumRisk sl + b.mocWin

/-- profit if the selection loses when `sb` / `sl` fill -/
def loseOutcome (b : Buckets) (sb sl : List (Rat × Rat)) : Rat :=
  sumStake b.ml - sumStake b.mb - sumStake sb + sumStake sl + b.mocLose

/-- exact (unrounded) figures the code aims at -/
def exactWin (b : Buckets) : Rat := sumRisk b.mb - sumRisk b.ml - sumRisk b.ul + b.mocWin
def exactLose (b : Buckets) : Rat := sumStake b.ml - sumStake b.mb - sumStake b.ub + b.mocLose

/-- open bets have a price of at least 1 and a non-negative size -/
def OpenOk (l : List (Rat × Rat)) : Prop := ∀ ps ∈ l, 1 ≤ ps.1 ∧ 0 ≤ ps.2

theorem sumRisk_cons (p s : Rat) (l : List (Rat × Rat)) : sumRisk ((p, s) :: l) = (p - 1) * s + sumRisk l := rfl
theorem sumStake_cons (p s : Rat) (l : List (Rat × Rat)) : sumStake ((p, s) :: l) = s + sumStake l := rfl

theorem sumRat_sublist {α} (f : α → Rat) {l S : List α} (h : S.Sublist l) (nn : ∀ x ∈ l, 0 ≤ f x) :
    0 ≤ sumRat (S.map f) ∧ sumRat (S.map f) ≤ sumRat (l.map f) := by
  induction h with
  | slnil => exact ⟨le_refl _, le_refl _⟩
  | cons a _ ih =>
    obtain ⟨i1, i2⟩ := ih fun x hx => nn x (List.mem_cons_of_mem _ hx)
    exact ⟨i1, i2.trans (le_add_of_nonneg_left (nn a List.mem_cons_self))⟩
  | cons_cons a _ ih =>
    obtain ⟨i1, i2⟩ := ih fun x hx => nn x (List.mem_cons_of_mem _ hx)
    exact ⟨add_nonneg (nn a List.mem_cons_self) i1, add_le_add (le_refl _) i2⟩

theorem sums_sublist (l S : List (Rat × Rat)) (h : S.Sublist l) (ok : OpenOk l) :
    0 ≤ sumRisk S ∧ sumRisk S ≤ sumRisk l ∧ 0 ≤ sumStake S ∧ sumStake S ≤ sumStake l :=
  have r := sumRat_sublist (fun ps : Rat × Rat => (ps.1 - 1) * ps.2) h fun x hx => mul_nonneg (sub_nonneg.mpr (ok x hx).1) (ok x hx).2
  have s := sumRat_sublist (fun ps : Rat × Rat => ps.2) h fun x hx => (ok x hx).2
  ⟨r.1, r.2, s.1, s.2⟩

/-- C16.1a no combination of fills does worse than the exact figures -/
theorem exact_is_lower_bound (b : Buckets) (sb sl : List (Rat × Rat))
    (hb : sb.Sublist b.ub) (hl : sl.Sublist b.ul) (okb : OpenOk b.ub) (okl : OpenOk b.ul) :
    exactWin b ≤ winOutcome b sb sl ∧ exactLose b ≤ loseOutcome b sb sl := by
  obtain ⟨b1, _, _, b4⟩ := sums_sublist b.ub sb hb okb
  obtain ⟨_, l2, l3, _⟩ := sums_sublist b.ul sl hl okl
  unfold exactWin winOutcome exactLose loseOutcome
  exact ⟨by linarith only [b1, l2], by linarith only [b4, l3]⟩

/-- C16.1b and the exact figures are attained (all lays fill for "win", all backs for "lose") -/
theorem exact_attained (b : Buckets) :
    winOutcome b [] b.ul = exactWin b ∧ loseOutcome b b.ub [] = exactLose b := by
  unfold exactWin winOutcome exactLose loseOutcome
  simp [sumRisk, sumStake, sumRat]

/-- the shortcut for two empty lists returns what the formula gives -/
theorem calcMatched_eq (mb ml : List (Rat × Rat)) :
    calcMatched mb ml = (round2 (matchedExact mb ml).1, round2 (matchedExact mb ml).2) := by
  unfold calcMatched
  split_ifs with h
  · simp only [Bool.and_eq_true, List.isEmpty_iff] at h
    obtain ⟨rfl, rfl⟩ := h
    simp [matchedExact, sumRisk, sumStake, sumRat, round2_zero]
  · rfl

theorem calcUnmatched_eq (ub ul : List (Rat × Rat)) :
    calcUnmatched ub ul = (round2 (unmatchedExact ub ul).1, round2 (unmatchedExact ub ul).2) := by
  unfold calcUnmatched
  split_ifs with h
  · simp only [Bool.and_eq_true, List.isEmpty_iff] at h
    obtain ⟨rfl, rfl⟩ := h
    simp [unmatchedExact, sumRisk, sumStake, sumRat, round2_zero]
  · rfl

/-- C16.1c the reported figures are within one penny of the exact worst case (the code rounds the
    matched and the unmatched part to 2dp separately: two half-pennies per side). -/
theorem reported_close (b : Buckets) :
    absR ((exposuresOf b).worstWin - exactWin b) ≤ 1 / 100 ∧
    absR ((exposuresOf b).worstLose - exactLose b) ≤ 1 / 100 := by
  -- each figure is the matched part plus the unmatched part (plus the SP orders, exact)
  have e1 : (exposuresOf b).worstWin - exactWin b =
      (round2 (matchedExact b.mb b.ml).1 - (matchedExact b.mb b.ml).1) +
        (round2 (unmatchedExact b.ub b.ul).1 - (unmatchedExact b.ub b.ul).1) := by
    simp only [exposuresOf, calcMatched_eq, calcUnmatched_eq, exactWin, matchedExact, unmatchedExact]; ring
  have e2 : (exposuresOf b).worstLose - exactLose b =
      (round2 (matchedExact b.mb b.ml).2 - (matchedExact b.mb b.ml).2) +
        (round2 (unmatchedExact b.ub b.ul).2 - (unmatchedExact b.ub b.ul).2) := by
    simp only [exposuresOf, calcMatched_eq, calcUnmatched_eq, exactLose, matchedExact, unmatchedExact]; ring
  rw [e1, e2]
  exact ⟨(absR_add_le (round2_err _) (round2_err _)).trans (by norm_num),
    (absR_add_le (round2_err _) (round2_err _)).trans (by norm_num)⟩

/-- C16.1 for every position: `get_exposures` reports, up to 0.01, the worst case over every
    combination of open orders filling (each fully or not at all, at its limit price). -/
theorem get_exposures_eq_worst (orders : List XOrder) (sel : Nat) (excl : Option Nat) (new : Option XOrder) :
    let b := buckets (orders.filter (·.sel = sel)) excl new
    let e := getExposures orders sel excl new
    (OpenOk b.ub → OpenOk b.ul →
      ∀ sb sl, sb.Sublist b.ub → sl.Sublist b.ul →
        e.worstWin - 1 / 100 ≤ winOutcome b sb sl ∧ e.worstLose - 1 / 100 ≤ loseOutcome b sb sl) ∧
    (winOutcome b [] b.ul ≤ e.worstWin + 1 / 100 ∧ loseOutcome b b.ub [] ≤ e.worstLose + 1 / 100) := by
  intro b e
  obtain ⟨hw, hl⟩ := reported_close b
  rw [absR_le_iff] at hw hl
  have he : e = exposuresOf b := rfl
  rw [he]
  constructor
  · intro okb okl sb sl hb hl'
    obtain ⟨l1, l2⟩ := exact_is_lower_bound b sb sl hb hl' okb okl
    exact ⟨(sub_le_comm.mp hw.2).trans l1, (sub_le_comm.mp hl.2).trans l2⟩
  · obtain ⟨a1, a2⟩ := exact_attained b
    rw [a1, a2]; exact ⟨neg_le_sub_iff_le_add.mp hw.1, neg_le_sub_iff_le_add.mp hl.1⟩

/-- C16.2 selection exposure is max(0, -min(win, lose)) of the reported figures -/
theorem selection_exposure_eq (orders : List XOrder) (sel : Nat) :
    selectionExposure orders sel =
      ratMax (-(ratMin (getExposures orders sel).worstWin (getExposures orders sel).worstLose)) 0 := rfl

/-! ### C16.4 status filter -/

/-- PENDING / VIOLATION / EXPIRED (the regenerated `PENDING_STATUS`) contribute nothing -/
theorem pending_contributes_nothing (excl : Option Nat) (b : Buckets) (o : XOrder)
    (h : isPendingStatus o.status = true) : addOrder excl b o = b := by
  unfold addOrder
  rw [if_pos h, ite_self]

theorem pending_status_list : Gen.blotterPendingStatus = [.pending, .violation, .expired] := by decide

/-- every other status (and an order not yet placed) is counted: a matched BACK limit order lands in `mb` -/
theorem counted_matched_back (b : Buckets) (o : XOrder) (h : isPendingStatus o.status = false)
    (hk : o.kind = .limit) (hs : o.side = .back) (hm : o.sizeMatched ≠ 0) (hc : o.complete = true)
    (hl : o.lineRange = false) :
    addOrder none b o = { b with mb := b.mb ++ [(o.avgPrice, o.sizeMatched)] } := by
  unfold addOrder
  simp [h, hk, hs, hm, hc, hl]

theorem foldl_addOrder_filter (excl : Option Nat) (os : List XOrder) (b : Buckets) :
    os.foldl (addOrder excl) b =
      (os.filter (fun o => !isPendingStatus o.status)).foldl (addOrder excl) b :=
  foldl_eq_foldl_filter _ _ _ (fun b o h => pending_contributes_nothing excl b o (by simpa using h)) (fun _ _ _ => rfl) os b

theorem filter_comm {α} (p q : α → Bool) (l : List α) : (l.filter p).filter q = (l.filter q).filter p := by
  rw [List.filter_filter, List.filter_filter]
  exact congrArg (List.filter · l) (funext fun x => Bool.and_comm _ _)

/-- C16.4 dropping the refused / unacknowledged orders from the book changes no figure -/
theorem status_filter (orders : List XOrder) (sel : Nat) :
    getExposures orders sel = getExposures (orders.filter (fun o => !isPendingStatus o.status)) sel := by
  unfold getExposures buckets
  dsimp only
  rw [foldl_addOrder_filter, filter_comm]

/-! ### C16.5 exclusion and new order -/

theorem addOrder_excl (e : Nat) (b : Buckets) (o : XOrder) :
    addOrder (some e) b o = if o.id = e then b else addOrder none b o := by
  unfold addOrder
  simp only [Option.some.injEq, reduceCtorEq, if_false, eq_comm (a := e)]

theorem foldl_excl (e : Nat) (os : List XOrder) (b : Buckets) :
    os.foldl (addOrder (some e)) b = (os.filter (fun o => o.id ≠ e)).foldl (addOrder none) b :=
  foldl_eq_foldl_filter _ _ _ (fun b o h => by rw [addOrder_excl, if_pos (by simpa using h)])
    (fun b o h => by rw [addOrder_excl, if_neg (by simpa using h)]) os b

/-- C16.5 (partial: the new order is a different order from the excluded one) an excluded order is
    handled exactly as if it had been removed from the book, and the prospective order exactly as if
    it had been added as a fresh resting order, whatever status it carries -/
theorem exclusion_new_order_partial (orders : List XOrder) (e : Nat) (n : XOrder) (h : n.id ≠ e) :
    buckets orders (some e) (some n) = buckets (orders.filter (fun o => o.id ≠ e)) none (some n) := by
  unfold buckets addNew
  simp only
  have h1 : ¬ (some e = some n.id) := fun hh => h (Option.some.inj hh).symm
  rw [if_neg h1, if_neg (by simp), foldl_excl, filter_comm]

theorem new_order_counted_in_full (b : Buckets) (n : XOrder) :
    addNew none b n = addOrder none b { n with status := none, complete := false } := by
  unfold addNew; simp

/-- the prospective order never appears twice: an instance of it already in the book is left out -/
theorem new_order_not_double_counted (orders : List XOrder) (excl : Option Nat) (n : XOrder) :
    buckets orders excl (some n) = buckets (orders.filter fun o => o.id ≠ n.id) excl (some n) := by
  unfold buckets
  simp only [List.filter_filter, Bool.and_self]

def wOrder : XOrder :=
  { id := 7, sel := 0, side := .lay, kind := .limit, lineRange := false, price := some 3,
    status := some .executable, complete := false, sizeMatched := 0, avgPrice := 0,
    sizeRemaining := 10, liability := 0 }

/-- the full statement fails on the code as it stands (known finding F1b): when the same order is
    passed as exclusion and as new order (what StrategyExposure does for REPLACE) it is dropped, not
    counted once -/
theorem exclusion_is_new_order_witness :
    (getExposures [wOrder] 0 (some 7) (some wOrder)).worstWin = 0 ∧
    (getExposures [wOrder] 0 none none).worstWin = -20 := by decide +kernel

/-- a refused order that is placed again (status VIOLATION, `complete`) is counted like a fresh one (fix of F18) -/
theorem refused_order_retried_is_counted :
    (getExposures [] 0 none (some { wOrder with status := some .violation, complete := true })).worstWin = -20 := by decide +kernel

/-- non-vacuity of the worst-case theorem's hypotheses -/
example : OpenOk (buckets [wOrder] none none).ul := by
  intro ps hps
  have : (buckets [wOrder] none none).ul = [(3, 10)] := by decide +kernel
  rw [this] at hps
  simp at hps
  subst hps
  constructor <;> norm_num

end Flumine.C16
