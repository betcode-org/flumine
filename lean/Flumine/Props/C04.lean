/-
  C04 — Simulated order sizes are conserved.
  The remainder is *derived* from the buckets in code and model alike, so the content is: the
  remainder and the matched size never go negative, matched never decreases (except at a void),
  a cancel never takes more than remains, a lapse or a void of the remainder leaves none —
  for every state an order reaches by a sequence of `Op`s.  Lapse and void appear as record updates
  (`Op.lapse`, `void_all`) that no theorem ties to `SimOrder.call`; of the failure branches of
  `place` only the lapse of `C05.bpe_off_lapses` is treated, there.
-/
import Flumine.SimOrder
import Flumine.Mw
import Flumine.Lemmas.SimLemmas
import Flumine.Lemmas.Shape
import Mathlib.Tactic.Ring
namespace Flumine.C04
open Flumine.SimOrder

/-- C04 bucket identity: requested size = matched + remaining + cancelled + lapsed + voided
    (exact whenever the buckets are 2dp amounts; the remainder is a 2dp rounding of the difference) -/
theorem bucket_identity (o : SimOrder) (hk : o.kind = .limit) (hc : IsCents (rawRem o)) :
    o.size = o.sizeMatched + o.sizeRemaining + o.sizeCancelled + o.sizeLapsed + o.sizeVoided := by
  rw [remaining_def o hk, round2_of_isCents hc]; unfold rawRem; ring

/-! ### the state invariant -/

def sumSizes (m : List Frag) : Rat := sumRat (m.map fun f => f.size)

/-- `0 < price`: `wap` answers `(0, 0)` as soon as the sum of price · size is 0; positive prices keep that
    sum positive while the sum of the sizes is not 0 (`sumPS_pos`), so the size `wap` reports is the sum of
    the fragment sizes (`wap_size`) -/
def FragsOk (m : List Frag) : Prop := ∀ f ∈ m, IsCents f.size ∧ 0 ≤ f.size ∧ 0 < f.price

structure Inv (o : SimOrder) : Prop where
  limit : o.kind = .limit
  frags : FragsOk o.matched
  matched : o.sizeMatched = sumSizes o.matched
  remNonneg : 0 ≤ o.sizeRemaining

theorem sumSizes_append (m : List Frag) (f : Frag) : sumSizes (m ++ [f]) = sumSizes m + f.size := by
  unfold sumSizes
  rw [List.map_append]; exact sumRat_concat _ _

theorem sumSizes_nonneg (m : List Frag) (h : FragsOk m) : 0 ≤ sumSizes m :=
  sumRat_nonneg _ fun x hx => by
    obtain ⟨f, hf, rfl⟩ := List.mem_map.mp hx
    exact (h f hf).2.1

theorem sumSizes_cents (m : List Frag) (h : FragsOk m) : IsCents (sumSizes m) := by
  induction m with
  | nil => exact ⟨0, by simp [sumSizes, sumRat]⟩
  | cons x xs ih =>
    have hx := h x List.mem_cons_self
    have := ih (fun f hf => h f (List.mem_cons_of_mem _ hf))
    simp only [sumSizes, List.map_cons, sumRat] at *
    exact hx.1.add this

theorem sumPS_pos (m : List Frag) (h : FragsOk m) (hb : sumSizes m ≠ 0) :
    0 < sumRat (m.map fun f => f.price * f.size) := by
  induction m with
  | nil => exact absurd rfl hb
  | cons x xs ih =>
    have hx := h x List.mem_cons_self
    have hxs : FragsOk xs := fun f hf => h f (List.mem_cons_of_mem _ hf)
    show 0 < x.price * x.size + sumRat (xs.map fun f => f.price * f.size)
    by_cases hz : sumSizes xs = 0
    · -- all of the size is in the head
      have hxne : x.size ≠ 0 := fun e => hb (by show x.size + sumSizes xs = 0; rw [e, hz, add_zero])
      refine add_pos_of_pos_of_nonneg (mul_pos hx.2.2 (lt_of_le_of_ne hx.2.1 hxne.symm)) (sumRat_nonneg _ fun y hy => ?_)
      obtain ⟨f, hf, rfl⟩ := List.mem_map.mp hy
      exact mul_nonneg (hxs f hf).2.2.le (hxs f hf).2.1
    · exact add_pos_of_nonneg_of_pos (mul_nonneg hx.2.2.le hx.2.1) (ih hxs hz)

theorem wap_size (m : List Frag) (h : FragsOk m) : (wap m).1 = sumSizes m := by
  unfold wap
  simp only
  split_ifs with he hz
  · rw [List.isEmpty_iff.mp he]; rfl
  · -- a zero sum of price · size is a zero sum of sizes
    exact (hz.elim id fun ha => by_contra fun hb => (sumPS_pos m h hb).ne' ha).symm
  · exact round2_of_isCents (sumSizes_cents m h)

theorem updateMatched_sizeMatched (o : SimOrder) (f : Frag) (hi : Inv o) (hf : IsCents f.size ∧ 0 ≤ f.size ∧ 0 < f.price) :
    FragsOk (o.matched ++ [f]) ∧ (o.updateMatched f).sizeMatched = o.sizeMatched + f.size := by
  have hfr : FragsOk (o.matched ++ [f]) := fun g hg => by
    rcases List.mem_append.mp hg with h | h
    · exact hi.frags g h
    · rw [List.mem_singleton.mp h]; exact hf
  refine ⟨hfr, ?_⟩
  show (wap (o.matched ++ [f])).1 = _
  rw [wap_size _ hfr, sumSizes_append, hi.matched]

theorem inv_updateMatched (o : SimOrder) (f : Frag) (hi : Inv o)
    (hf : IsCents f.size ∧ 0 ≤ f.size ∧ 0 < f.price) (hle : f.size ≤ o.sizeRemaining) :
    Inv (o.updateMatched f) ∧ o.sizeMatched ≤ (o.updateMatched f).sizeMatched := by
  obtain ⟨hfr, hm⟩ := updateMatched_sizeMatched o f hi hf
  refine ⟨⟨hi.limit, hfr, ?_, ?_⟩, by rw [hm]; exact le_add_of_nonneg_right hf.2.1⟩
  · rw [hm, hi.matched]; exact (sumSizes_append _ _).symm
  · refine remaining_nonneg_of o _ f.size hi.limit hi.limit ?_ hle
    show o.size - (o.updateMatched f).sizeMatched - o.sizeCancelled - o.sizeLapsed - o.sizeVoided = _
    rw [hm]; unfold rawRem; ring

/-! ### cancel -/

theorem cancel_notOpen (o : SimOrder) (st : MStatus) (red : Option Rat) (h : st ≠ .open_) :
    o.cancel st red = (o, { status := .failure, errorCode := some "ERROR_IN_ORDER" }) := by
  unfold cancel; rw [if_pos h]

theorem cancel_open (o : SimOrder) (red : Option Rat) (hk : o.kind = .limit) :
    o.cancel .open_ red =
      ({ o with sizeCancelled := o.sizeCancelled + ratMin (effRed o red) o.sizeRemaining },
       { status := .success, sizeCancelled := ratMin (effRed o red) o.sizeRemaining }) := by
  unfold cancel
  simp only [ne_eq, not_true_eq_false, if_false, hk]

/-- C04 a cancel (full, partial, or larger than the remainder) never cancels more than remains,
    leaves the remainder non-negative and leaves matched untouched -/
theorem cancel_inv (o : SimOrder) (st : MStatus) (red : Option Rat) (hi : Inv o)
    (hred : ∀ r, red = some r → 0 ≤ r) :
    Inv (o.cancel st red).1 ∧ (o.cancel st red).1.sizeMatched = o.sizeMatched ∧
    (o.cancel st red).2.sizeCancelled ≤ o.sizeRemaining ∧ 0 ≤ (o.cancel st red).2.sizeCancelled := by
  by_cases hst : st = .open_
  · subst hst
    rw [cancel_open o red hi.limit]
    have hr0 : 0 ≤ effRed o red := by
      unfold effRed
      cases red with
      | none => exact hi.remNonneg
      | some v =>
        dsimp only
        split
        · exact hi.remNonneg
        · exact hred v rfl
    exact ⟨⟨hi.limit, hi.frags, hi.matched,
        remaining_nonneg_of o _ _ hi.limit hi.limit (by unfold rawRem; ring) (ratMin_le_right _ _)⟩,
      rfl, ratMin_le_right _ _, le_ratMin hr0 hi.remNonneg⟩
  · rw [cancel_notOpen o st red hst]
    exact ⟨hi, rfl, hi.remNonneg, le_refl _⟩

/-- a full cancel (no size reduction) on an open market leaves nothing remaining -/
theorem cancel_full (o : SimOrder) (hk : o.kind = .limit) :
    (o.cancel .open_ none).1.sizeRemaining = 0 := by
  rw [cancel_open o none hk, show ratMin (effRed o none) o.sizeRemaining = o.sizeRemaining from ratMin_eq_left (le_refl _)]
  exact cancel_remaining_zero o hk

/-- a refused cancel (market not open, or not a limit order) changes nothing -/
theorem cancel_failure_noop (o : SimOrder) (st : MStatus) (red : Option Rat) (h : st ≠ .open_) :
    (o.cancel st red).1 = o ∧ (o.cancel st red).2.status = .failure := by
  rw [cancel_notOpen o st red h]; exact ⟨rfl, rfl⟩

/-! ### passive matching from traded volume -/

/-- the size `_calculate_process_traded` matches once the queue ahead has traded -/
def tradedSize (o : SimOrder) (ts : Rat) : Rat := round2 (ratMin o.sizeRemaining (ts / 2 - o.piq))

theorem cpt_eq (o : SimOrder) (pt : Int) (ts : Rat) :
    o.calculateProcessTraded pt ts =
      if o.piq - ts / 2 < 0 then
        ({ (if tradedSize o ts ≠ 0 then o.updateMatched ⟨pt, o.price, tradedSize o ts⟩ else o) with piq := 0 },
          (o.piq + tradedSize o ts) * 2)
      else ({ o with piq := o.piq - ts / 2 }, ts) := rfl

theorem cpt_fst (o : SimOrder) (pt : Int) (ts : Rat) :
    (∃ q, (o.calculateProcessTraded pt ts).1 = { o with piq := q }) ∨
    (o.piq - ts / 2 < 0 ∧ tradedSize o ts ≠ 0 ∧
      (o.calculateProcessTraded pt ts).1 = { o.updateMatched ⟨pt, o.price, tradedSize o ts⟩ with piq := 0 }) := by
  rw [cpt_eq]
  by_cases hq : o.piq - ts / 2 < 0
  · rw [if_pos hq]
    by_cases hz : tradedSize o ts ≠ 0
    · rw [if_pos hz]; exact .inr ⟨hq, hz, rfl⟩
    · rw [if_neg hz]; exact .inl ⟨_, rfl⟩
  · rw [if_neg hq]; exact .inl ⟨_, rfl⟩

/-- `_process_traded` on a non-empty dict, with the `let`s of the model resolved -/
theorem processTraded_cons_eq (pt : Int) (tp ts : Rat) (rest : List (Rat × Rat)) (o : SimOrder) :
    processTraded pt ((tp, ts) :: rest) o =
      if eligible o tp = true then
        ((processTraded pt rest (o.calculateProcessTraded pt ts).1).1,
          (tp, if (o.calculateProcessTraded pt ts).2 ≠ 0 then ratMax (ts - (o.calculateProcessTraded pt ts).2) 0 else ts) ::
            (processTraded pt rest (o.calculateProcessTraded pt ts).1).2)
      else ((processTraded pt rest o).1, (tp, ts) :: (processTraded pt rest o).2) := by
  rw [processTraded]

theorem processTraded_ind {P : SimOrder → Prop} (pt : Int) (h : ∀ o ts, P o → P (o.calculateProcessTraded pt ts).1)
    (traded : List (Rat × Rat)) (o : SimOrder) (ho : P o) : P (processTraded pt traded o).1 := by
  induction traded generalizing o with
  | nil => exact ho
  | cons x rest ih =>
    obtain ⟨tp, ts⟩ := x
    rw [processTraded_cons_eq]
    split
    · exact ih _ (h o ts ho)
    · exact ih o ho

/-- the `1 / 200` is the rounding of `round2` -/
theorem tradedSize_bounds (o : SimOrder) (ts : Rat) (hi : Inv o) (hq : o.piq - ts / 2 < 0) :
    0 ≤ tradedSize o ts ∧ tradedSize o ts ≤ o.sizeRemaining ∧ tradedSize o ts ≤ ts / 2 - o.piq + 1 / 200 := by
  unfold tradedSize
  refine ⟨round2_nonneg (le_ratMin hi.remNonneg (sub_nonneg.mpr (sub_neg.mp hq).le)), ?_, ?_⟩
  · have := round2_mono (ratMin_le_left o.sizeRemaining (ts / 2 - o.piq))
    rwa [round2_remaining o hi.limit] at this
  · have h2 := ((absR_le_iff _ _).mp (round2_err (ratMin o.sizeRemaining (ts / 2 - o.piq)))).2
    exact (sub_le_iff_le_add'.mp h2).trans (add_le_add_left (ratMin_le_right _ _) _)

theorem calculateProcessTraded_inv (o : SimOrder) (pt : Int) (ts : Rat) (hi : Inv o) (hp : 0 < o.price) :
    Inv (o.calculateProcessTraded pt ts).1 ∧ o.sizeMatched ≤ (o.calculateProcessTraded pt ts).1.sizeMatched := by
  rcases cpt_fst o pt ts with ⟨q, h⟩ | ⟨hq, _, h⟩ <;> rw [h]
  · exact ⟨⟨hi.limit, hi.frags, hi.matched, hi.remNonneg⟩, le_refl _⟩
  · obtain ⟨h0, h1, _⟩ := tradedSize_bounds o ts hi hq
    obtain ⟨a, b⟩ := inv_updateMatched o ⟨pt, o.price, tradedSize o ts⟩ hi ⟨round2_isCents _, h0, hp⟩ h1
    exact ⟨⟨a.limit, a.frags, a.matched, a.remNonneg⟩, b⟩

theorem calculateProcessTraded_price (o : SimOrder) (pt : Int) (ts : Rat) :
    (o.calculateProcessTraded pt ts).1.price = o.price := by
  rcases cpt_fst o pt ts with ⟨q, h⟩ | ⟨_, _, h⟩ <;> exact (congrArg SimOrder.price h).trans rfl

theorem processTraded_inv (pt : Int) (traded : List (Rat × Rat)) (o : SimOrder) (hi : Inv o) (hp : 0 < o.price) :
    Inv (processTraded pt traded o).1 ∧ o.sizeMatched ≤ (processTraded pt traded o).1.sizeMatched :=
  (processTraded_ind (P := fun o' => (Inv o' ∧ o.sizeMatched ≤ o'.sizeMatched) ∧ 0 < o'.price) pt
    (fun o' ts ⟨⟨a, b⟩, c⟩ => by
      obtain ⟨a', b'⟩ := calculateProcessTraded_inv o' pt ts a c
      exact ⟨⟨a', le_trans b b'⟩, by rw [calculateProcessTraded_price]; exact c⟩)
    traded o ⟨⟨hi, le_refl _⟩, hp⟩).1

theorem processTraded_price (pt : Int) (traded : List (Rat × Rat)) (o : SimOrder) :
    (processTraded pt traded o).1.price = o.price :=
  processTraded_ind (P := fun o' => o'.price = o.price) pt (fun o' ts h => (calculateProcessTraded_price o' pt ts).trans h) traded o rfl

/-! ### void -/

theorem void_all (o : SimOrder) (hi : Inv o) :
    ({ o with sizeVoided := o.sizeVoided + o.sizeRemaining } : SimOrder).sizeRemaining = 0 :=
  remaining_zero_of o _ hi.limit hi.limit (by unfold rawRem; ring)

/-! ### runner removal -/

/-- C04 / C09 the void of a runner removal (after fix 9e33719): whatever the order's buckets were —
    matched, partly cancelled, lapsed — afterwards nothing is matched, nothing remains, and the whole
    requested size is voided. -/
theorem removal_void_total (w : World) (m : Market) (rsel : Nat) (rhc : Rat) (raf : Option Rat) (o : Order)
    (hk : o.sim.kind = .limit) (hon : o.market = m.id ∧ o.sel = rsel ∧ o.hc = rhc) :
    let o' := w.removalOnOrder m rsel rhc raf o
    o'.sim.sizeMatched = 0 ∧ o'.sim.matched = [] ∧ o'.sim.sizeCancelled = 0 ∧ o'.sim.sizeLapsed = 0 ∧
    o'.sim.sizeVoided = o.sim.size ∧ o'.sim.sizeRemaining = 0 := by
  intro o'
  have e : o' = _ := World.removalOnOrder_on w m rsel rhc raf o hon
  rw [e]
  refine ⟨rfl, rfl, rfl, rfl, ?_, ?_⟩
  · simp only [hk]
  · unfold sizeRemaining
    simp only [hk]
    rw [sub_zero, sub_zero, sub_zero, sub_self]; exact round2_zero

/-! ### every reachable state: induction over operation sequences -/

/-- operations on a resting simulated limit order (after a successful placement) -/
inductive Op
  | cancel (st : MStatus) (red : Option Rat)        -- any reduction ≥ 0, also larger than the remainder
  | update (book : BookView) (pers : String)
  | traded (pt : Int) (t : List (Rat × Rat))        -- any traded dict
  | lapse                                           -- suspension with a version change, persistence LAPSE

def OpOk : Op → Prop
  | .cancel _ red => ∀ r, red = some r → 0 ≤ r
  | _ => True

def step (o : SimOrder) : Op → SimOrder
  | .cancel st red => (o.cancel st red).1
  | .update book pers => (o.update book pers).1
  | .traded pt t => (processTraded pt t o).1
  | .lapse => { o with sizeLapsed := o.sizeLapsed + o.sizeRemaining }

theorem step_price (o : SimOrder) (op : Op) : (step o op).price = o.price := by
  cases op with
  | cancel st red =>
    show (o.cancel st red).1.price = o.price
    rcases cancel_fst o st red with h | ⟨c, h⟩ <;> rw [h]
  | update book pers =>
    show (o.update book pers).1.price = o.price
    rcases update_fst o book pers with h | h <;> rw [h]
  | traded pt t => exact processTraded_price pt t o
  | lapse => rfl

theorem step_inv (o : SimOrder) (op : Op) (hi : Inv o) (hp : 0 < o.price) (hok : OpOk op) :
    Inv (step o op) ∧ o.sizeMatched ≤ (step o op).sizeMatched := by
  cases op with
  | cancel st red =>
    obtain ⟨a, b, _, _⟩ := cancel_inv o st red hi hok
    exact ⟨a, b.ge⟩
  | update book pers =>
    show Inv (o.update book pers).1 ∧ o.sizeMatched ≤ (o.update book pers).1.sizeMatched
    rcases update_fst o book pers with h | h <;> rw [h]
    · exact ⟨hi, le_refl _⟩
    · exact ⟨⟨hi.limit, hi.frags, hi.matched, hi.remNonneg⟩, le_refl _⟩
  | traded pt t => exact processTraded_inv pt t o hi hp
  | lapse => exact ⟨⟨hi.limit, hi.frags, hi.matched, (lapse_remaining_zero o hi.limit).ge⟩, le_refl _⟩

/-- C04 for **every** sequence of cancels (full / partial / over-sized), updates, traded-volume
    updates and lapses applied to a resting order: the remainder and the matched size stay
    non-negative and the matched size never decreases. -/
theorem reachable_inv (ops : List Op) (o : SimOrder) (hi : Inv o) (hp : 0 < o.price) (hok : ∀ op ∈ ops, OpOk op) :
    Inv (ops.foldl step o) ∧ o.sizeMatched ≤ (ops.foldl step o).sizeMatched ∧ 0 ≤ (ops.foldl step o).sizeMatched := by
  have h := List.foldlRecOn ops step (motive := fun x => Inv x ∧ o.sizeMatched ≤ x.sizeMatched ∧ 0 < x.price) ⟨hi, le_refl _, hp⟩
    fun x ⟨a, b, c⟩ op hop =>
      have s := step_inv x op a c (hok op hop)
      ⟨s.1, le_trans b s.2, by rw [step_price]; exact c⟩
  exact ⟨h.1, h.2.1, by rw [h.1.matched]; exact sumSizes_nonneg _ h.1.frags⟩

/-- non-vacuity: a freshly placed resting order satisfies the invariant -/
def resting : SimOrder := { side := .back, kind := .limit, price := 2, size := 10 }

theorem resting_inv : Inv resting :=
  ⟨rfl, by intro f hf; simp [resting] at hf, by simp [resting, sumSizes, sumRat], by decide +kernel⟩

example : (([Op.traded 5 [(3, 8)], Op.cancel .open_ (some 100), Op.lapse] : List Op).foldl step resting).sizeMatched = 4 := by
  decide +kernel

end Flumine.C04
