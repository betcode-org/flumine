/-
  C05 — Fills never breach the order's limit; fill-or-kill is all-or-nothing.
  The theorems are about `SimOrder.placeLimit` and the two walks over the book it calls
  (`processPriceMatched`, `processPriceMatchedVwap`); none is about the top-level `SimOrder.place`.
-/
import Flumine.SimOrder
import Flumine.Lemmas.SimLemmas
import Mathlib.Tactic.SplitIfs
namespace Flumine.C05
open Flumine.SimOrder

def limitOk (side : Side) (limit p : Rat) : Prop :=
  match side with
  | .back => limit ≤ p
  | .lay => p ≤ limit

@[simp] theorem updateMatched_matched (o : SimOrder) (f : Frag) : (o.updateMatched f).matched = o.matched ++ [f] := rfl
@[simp] theorem updateMatched_side (o : SimOrder) (f : Frag) : (o.updateMatched f).side = o.side := rfl

theorem crosses_limitOk (side : Side) (price p : Rat) (h : crosses side price p = true) : limitOk side price p := by
  cases side <;> simpa [crosses, limitOk] using h

/-! ### C05.1 / C05.3 the crossing match -/

/-- What `_process_price_matched` appends: one fragment per level of a *prefix* of the book side,
    each at that level's price, each of (pre-rounding) size `t ≤` the level's size, the takes summing
    to at most the requested size; every price satisfies the limit. -/
structure Takes (side : Side) (pt : Int) (price : Rat) (avail : List Level) (rem : Rat) (new : List Frag) : Prop where
  ex : ∃ (k : Nat) (ts : List Rat), ts.length = k ∧ k ≤ avail.length ∧
        new = List.zipWith (fun (lv : Level) (t : Rat) => (⟨pt, lv.price, round2 t⟩ : Frag)) (avail.take k) ts ∧
        (∀ i (h1 : i < ts.length) (h2 : i < avail.length), 0 ≤ ts[i] ∧ ts[i] ≤ avail[i].size) ∧
        sumRat ts ≤ rem
  ok : ∀ f ∈ new, limitOk side price f.price

/-- what `_process_price_matched(_vwap)` takes from a level of `size` when `rem` is still wanted: all of the level, or
    `rem` if that is less; what is wanted afterwards is `ratMax (rem - size) 0` -/
def takeOf (rem size : Rat) : Rat := if ratMax (rem - size) 0 = 0 then rem else size

/-- the fragment `_process_price_matched(_vwap)` builds for a level -/
def fragOf (pt : Int) (rem : Rat) (lv : Level) : Frag := ⟨pt, lv.price, round2 (takeOf rem lv.size)⟩

theorem processPriceMatched_cons (pt : Int) (price rem : Rat) (lv : Level) (rest : List Level) (o : SimOrder) :
    processPriceMatched pt price rem (lv :: rest) o =
      if rem = 0 then o
      else if crosses o.side price lv.price = true then
        processPriceMatched pt price (ratMax (rem - lv.size) 0) rest (o.updateMatched (fragOf pt rem lv))
      else o := rfl

theorem take_facts (rem size : Rat) (hrem : 0 ≤ rem) (hsz : 0 ≤ size) :
    0 ≤ takeOf rem size ∧ takeOf rem size ≤ size ∧ takeOf rem size + ratMax (rem - size) 0 ≤ rem := by
  unfold takeOf
  rcases le_total (rem - size) 0 with h | h
  · rw [ratMax_eq_right h, if_pos rfl]; exact ⟨hrem, sub_nonpos.mp h, (add_zero rem).le⟩
  · rw [ratMax_eq_left h]
    split
    · next e => exact ⟨hrem, (sub_eq_zero.mp e).le, by rw [e, add_zero]⟩
    · exact ⟨hsz, le_refl _, (add_sub_cancel size rem).le⟩

/-- where the walk stops, nothing more is taken -/
theorem takes_none (o : SimOrder) (pt : Int) (price : Rat) (avail : List Level) (rem : Rat) (hrem : 0 ≤ rem) :
    ∃ new, o.matched = o.matched ++ new ∧ Takes o.side pt price avail rem new :=
  ⟨[], (List.append_nil _).symm,
    ⟨0, [], rfl, Nat.zero_le _, rfl, fun _ h => absurd h (Nat.not_lt_zero _), hrem⟩, fun _ h => nomatch h⟩

theorem processPriceMatched_spec (pt : Int) (price : Rat) (avail : List Level) (rem : Rat) (o : SimOrder)
    (hrem : 0 ≤ rem) (hsz : ∀ lv ∈ avail, 0 ≤ lv.size) :
    ∃ new, (processPriceMatched pt price rem avail o).matched = o.matched ++ new ∧ Takes o.side pt price avail rem new := by
  induction avail generalizing rem o with
  | nil => exact takes_none o pt price [] rem hrem
  | cons lv rest ih =>
    rw [processPriceMatched_cons]
    by_cases h0 : rem = 0
    · rw [if_pos h0]; exact takes_none o pt price _ rem hrem
    rw [if_neg h0]
    by_cases hc : crosses o.side price lv.price = true
    · rw [if_pos hc]
      obtain ⟨t0, t1, t2⟩ := take_facts rem lv.size hrem (hsz lv List.mem_cons_self)
      obtain ⟨new, e, ⟨k, ts, hk, hkl, hnew, hts, hsum⟩, hok⟩ :=
        ih (ratMax (rem - lv.size) 0) (o.updateMatched (fragOf pt rem lv)) (le_ratMax_right _ _)
          fun l hl => hsz l (List.mem_cons_of_mem _ hl)
      refine ⟨fragOf pt rem lv :: new, by rw [e, updateMatched_matched, List.append_assoc]; rfl,
        ⟨k + 1, takeOf rem lv.size :: ts, by rw [List.length_cons, hk],
          Nat.succ_le_succ hkl, by rw [hnew]; rfl, ?_, (add_le_add_right hsum _).trans t2⟩, ?_⟩
      · intro i h1 h2
        cases i with
        | zero => exact ⟨t0, t1⟩
        | succ j => exact hts j (Nat.lt_of_succ_lt_succ h1) (Nat.lt_of_succ_lt_succ h2)
      · intro f hf
        rcases List.mem_cons.mp hf with rfl | hf
        · exact crosses_limitOk _ _ _ hc
        · exact hok f hf
    · rw [if_neg hc]; exact takes_none o pt price _ rem hrem

/-- C05.1 every fragment created by the crossing match of a (non fill-or-kill) limit order is at or
    better than the limit: at or above it for BACK, at or below it for LAY. -/
theorem fill_within_limit (pt : Int) (price : Rat) (avail : List Level) (size : Rat) (o : SimOrder)
    (hs : 0 ≤ size) (hsz : ∀ lv ∈ avail, 0 ≤ lv.size) (hfresh : o.matched = []) :
    ∀ f ∈ (processPriceMatched pt price size avail o).matched, limitOk o.side price f.price := by
  obtain ⟨new, e1, tk⟩ := processPriceMatched_spec pt price avail size o hs hsz
  rw [e1, hfresh]
  exact tk.ok

/-- C05.3 an order never takes more from a price level than was available there, uses each level at
    most once (a prefix of the ladder, in order), and never more in total than its size. -/
theorem level_not_overdrawn (pt : Int) (price : Rat) (avail : List Level) (size : Rat) (o : SimOrder)
    (hs : 0 ≤ size) (hsz : ∀ lv ∈ avail, 0 ≤ lv.size) (hfresh : o.matched = []) :
    ∃ (k : Nat) (ts : List Rat), ts.length = k ∧ k ≤ avail.length ∧
      (processPriceMatched pt price size avail o).matched =
        List.zipWith (fun (lv : Level) (t : Rat) => (⟨pt, lv.price, round2 t⟩ : Frag)) (avail.take k) ts ∧
      (∀ i (h1 : i < ts.length) (h2 : i < avail.length), 0 ≤ ts[i] ∧ ts[i] ≤ avail[i].size) ∧
      sumRat ts ≤ size := by
  obtain ⟨new, e1, tk⟩ := processPriceMatched_spec pt price avail size o hs hsz
  obtain ⟨k, ts, h1, h2, h3, h4, h5⟩ := tk.ex
  exact ⟨k, ts, h1, h2, by rw [e1, hfresh, h3]; rfl, h4, h5⟩

/-! ### C05.2 fill-or-kill: the volume-weighted average satisfies the limit -/

theorem vwapLoop_nil (pt : Int) (price rem : Rat) (o : SimOrder) : vwapLoop pt price rem [] o = o := rfl

theorem vwapLoop_cons (pt : Int) (price rem : Rat) (lv : Level) (rest : List Level) (o : SimOrder) :
    vwapLoop pt price rem (lv :: rest) o =
      if rem = 0 then o
      else if crosses o.side price (wap (o.matched ++ [fragOf pt rem lv])).2 = true then
        vwapLoop pt price (ratMax (rem - lv.size) 0) rest (o.updateMatched (fragOf pt rem lv))
      else o := by
  rfl

/-- invariant of the VWAP walk: a level is accepted only if the average `wap` computes with it crosses -/
theorem vwapLoop_avg (pt : Int) (price : Rat) (avail : List Level) (rem : Rat) (o : SimOrder)
    (h : o.matched = [] ∨ limitOk o.side price o.avgPrice) :
    (vwapLoop pt price rem avail o).matched = [] ∨ limitOk o.side price (vwapLoop pt price rem avail o).avgPrice := by
  induction avail generalizing rem o with
  | nil => exact h
  | cons lv rest ih =>
    rw [vwapLoop_cons]
    by_cases h0 : rem = 0
    · rw [if_pos h0]; exact h
    · rw [if_neg h0]
      by_cases hok : crosses o.side price (wap (o.matched ++ [fragOf pt rem lv])).2 = true
      · rw [if_pos hok]
        exact ih (ratMax (rem - lv.size) 0) (o.updateMatched (fragOf pt rem lv)) (Or.inr (crosses_limitOk _ _ _ hok))
      · rw [if_neg hok]; exact h

theorem processPriceMatchedVwap_cases (pt : Int) (price size : Rat) (avail : List Level) (minFill : Rat) (o : SimOrder) :
    ((vwapLoop pt price size avail o).sizeMatched < minFill ∧ ∃ c, processPriceMatchedVwap pt price size avail minFill o =
      { vwapLoop pt price size avail o with matched := [], sizeMatched := 0, avgPrice := 0, sizeCancelled := c }) ∨
    (minFill ≤ (vwapLoop pt price size avail o).sizeMatched ∧
      processPriceMatchedVwap pt price size avail minFill o = vwapLoop pt price size avail o) := by
  by_cases hm : (vwapLoop pt price size avail o).sizeMatched < minFill
  · exact .inl ⟨hm, _, if_pos hm⟩
  · exact .inr ⟨not_lt.mp hm, if_neg hm⟩

/-- C05.2 for a fill-or-kill order priced through the best price: either nothing is matched, or the
    **reported** average price of its fills satisfies the limit (the reported average is the exact
    volume-weighted average rounded to 2dp, see `wap_avg_close`). -/
theorem fok_vwap_within_limit (pt : Int) (price size : Rat) (avail : List Level) (minFill : Rat) (o : SimOrder)
    (hfresh : o.matched = []) :
    (processPriceMatchedVwap pt price size avail minFill o).matched = [] ∨
      limitOk o.side price (processPriceMatchedVwap pt price size avail minFill o).avgPrice := by
  rcases processPriceMatchedVwap_cases pt price size avail minFill o with ⟨_, c, e⟩ | ⟨_, e⟩ <;> rw [e]
  · exact .inl rfl
  · exact vwapLoop_avg pt price avail size o (Or.inl hfresh)

/-- the reported average is within half a penny of the exact volume-weighted average -/
theorem wap_avg_close (m : List Frag)
    (hb : sumRat (m.map fun f => f.size) ≠ 0) (ha : sumRat (m.map fun f => f.price * f.size) ≠ 0) (hm : m ≠ []) :
    absR ((wap m).2 - sumRat (m.map fun f => f.price * f.size) / sumRat (m.map fun f => f.size)) ≤ 1 / 200 := by
  unfold wap
  have : m.isEmpty = false := by cases m <;> simp_all
  simp only [this, hb, ha, or_self, if_false]
  exact round2_err _

/-! ### C05.4 fill-or-kill is all-or-nothing -/

/-- C05.4a the min-fill roll-back: after `_process_price_matched_vwap` a fill-or-kill order has
    matched nothing or at least its minimum fill size. -/
theorem vwap_all_or_nothing (pt : Int) (price size : Rat) (avail : List Level) (minFill : Rat) (o : SimOrder) :
    ((processPriceMatchedVwap pt price size avail minFill o).sizeMatched = 0 ∧
      (processPriceMatchedVwap pt price size avail minFill o).matched = []) ∨
    minFill ≤ (processPriceMatchedVwap pt price size avail minFill o).sizeMatched := by
  rcases processPriceMatchedVwap_cases pt price size avail minFill o with ⟨_, c, e⟩ | ⟨h, e⟩ <;> rw [e]
  · exact .inl ⟨rfl, rfl⟩
  · exact .inr h

theorem processPriceMatched_kind (pt : Int) (price : Rat) (avail : List Level) (rem : Rat) (o : SimOrder) :
    (processPriceMatched pt price rem avail o).kind = o.kind := by
  induction avail generalizing rem o with
  | nil => rfl
  | cons lv rest ih =>
    rw [processPriceMatched_cons]
    split_ifs
    · rfl
    · rw [ih]; rfl
    · rfl

theorem vwapLoop_kind (pt : Int) (price : Rat) (avail : List Level) (rem : Rat) (o : SimOrder) :
    (vwapLoop pt price rem avail o).kind = o.kind := by
  induction avail generalizing rem o with
  | nil => rfl
  | cons lv rest ih =>
    rw [vwapLoop_cons]
    split_ifs
    · rfl
    · rw [ih]; rfl
    · rfl

theorem processPriceMatchedVwap_kind (pt : Int) (price size : Rat) (avail : List Level) (mf : Rat) (o : SimOrder) :
    (processPriceMatchedVwap pt price size avail mf o).kind = o.kind := by
  rcases processPriceMatchedVwap_cases pt price size avail mf o with ⟨_, c, e⟩ | ⟨_, e⟩ <;> rw [e] <;>
    exact vwapLoop_kind _ _ _ _ _

theorem respond_after_cancel (o1 : SimOrder) (betId : Nat) (h1 : o1.kind = .limit) :
    (createPlaceResponse { o1 with sizeCancelled := o1.sizeCancelled + o1.sizeRemaining } false (some betId)).1.sizeRemaining = 0 ∧
    (createPlaceResponse { o1 with sizeCancelled := o1.sizeCancelled + o1.sizeRemaining } false (some betId)).2.orderStatus = .executionComplete := by
  have hz := C04.cancel_remaining_zero o1 h1
  unfold createPlaceResponse
  simp only [Bool.false_eq_true, false_and, if_false, hz, if_true]
  trivial

theorem placeLimit_fok (o : SimOrder) (bpe : Bool) (pt : Int) (runner : RunnerView) (mf : Option Rat) (betId : Nat) :
    (placeLimit o bpe false pt runner true mf betId).2.status = .failure ∨
    ∃ o1 : SimOrder, o1.kind = o.kind ∧ placeLimit o bpe false pt runner true mf betId =
      createPlaceResponse { o1 with sizeCancelled := o1.sizeCancelled + o1.sizeRemaining } false (some betId) := by
  unfold placeLimit
  simp only [true_and, if_true]
  by_cases c1 : o.size < minFillOf o.size mf
  · left; rw [if_pos c1]; rfl
  rw [if_neg c1]
  by_cases c2 : (!bpe && isThrough o.side o.price (bestFor o.side runner)) = true
  · left; rw [if_pos c2]; rfl
  rw [if_neg c2]
  right
  by_cases c3 : isBehind o.side o.price (bestFor o.side runner) = true
  · rw [if_pos c3]; exact ⟨o, rfl, rfl⟩
  rw [if_neg c3]
  by_cases c4 : o.price = bestFor o.side runner
  · rw [if_pos c4]
    refine ⟨_, ?_, rfl⟩
    split
    · exact processPriceMatched_kind _ _ _ _ _
    · rfl
  · rw [if_neg c4]
    exact ⟨_, processPriceMatchedVwap_kind _ _ _ _ _ _, rfl⟩

/-- C05.4b in every fill-or-kill branch of `place` that reaches the exchange (SUCCESS) the unfilled
    part is cancelled at once: nothing remains and the order is reported EXECUTION_COMPLETE, so it
    never rests in the market.  (The other outcomes are the FAILURE responses.) -/
theorem fok_never_rests (o : SimOrder) (bpe : Bool) (pt : Int) (runner : RunnerView)
    (minFillInstr : Option Rat) (betId : Nat) (hk : o.kind = .limit) :
    (placeLimit o bpe false pt runner true minFillInstr betId).2.status = .success →
      (placeLimit o bpe false pt runner true minFillInstr betId).1.sizeRemaining = 0 ∧
      (placeLimit o bpe false pt runner true minFillInstr betId).2.orderStatus = .executionComplete := by
  rcases placeLimit_fok o bpe pt runner minFillInstr betId with h | ⟨o1, h1, h⟩
  · intro hs; rw [h] at hs; cases hs
  · intro _; rw [h]; exact respond_after_cancel o1 betId (h1.trans hk)

/-! ### C05.5 best-price execution off -/

/-- C05.5 with best-price execution disabled, an order priced through the best available price
    (so that it would be price-improved) fails: nothing is matched and everything lapses. -/
theorem bpe_off_lapses (o : SimOrder) (pt : Int) (runner : RunnerView) (fok : Bool)
    (minFillInstr : Option Rat) (betId : Nat) (hk : o.kind = .limit)
    (hmf : ¬ (fok = true ∧ o.size < minFillOf o.size minFillInstr))
    (hthrough : isThrough o.side o.price (bestFor o.side runner) = true) :
    (placeLimit o false false pt runner fok minFillInstr betId).2.status = .failure ∧
    (placeLimit o false false pt runner fok minFillInstr betId).1.matched = o.matched ∧
    (placeLimit o false false pt runner fok minFillInstr betId).1.sizeRemaining = 0 ∧
    (placeLimit o false false pt runner fok minFillInstr betId).1.sizeLapsed = o.sizeLapsed + o.sizeRemaining ∧
    (placeLimit o false false pt runner fok minFillInstr betId).2.errorCode = some "BET_LAPSED_PRICE_IMPROVEMENT_TOO_LARGE" := by
  unfold placeLimit
  simp only [hmf, if_false, Bool.not_false, Bool.true_and, hthrough, if_true]
  have hz := C04.lapse_remaining_zero o hk
  unfold fail createPlaceResponse
  simp only [Bool.false_eq_true, false_and, if_false]
  exact ⟨by trivial, by trivial, hz, by trivial, by trivial⟩

/-! ### non-vacuity: concrete books and orders meeting the hypotheses -/

def book3 : List Level := [⟨5/2, 4⟩, ⟨2, 3⟩, ⟨3/2, 100⟩]
def backOrder : SimOrder := { side := .back, kind := .limit, price := 2, size := 10 }

example : (processPriceMatched 1000 2 10 book3 backOrder).matched = [⟨1000, 5/2, 4⟩, ⟨1000, 2, 3⟩] := by
  decide +kernel
example : ((placeLimit { backOrder with price := 9/4 } true false 1000 { atb := book3 } true (some 8) 1).1.matched = [] ∧
           (placeLimit { backOrder with price := 9/4 } true false 1000 { atb := book3 } true (some 8) 1).1.sizeRemaining = 0) := by
  decide +kernel
example : ((placeLimit { backOrder with price := 9/4 } true false 1000 { atb := book3 } true (some 5) 1).1.sizeMatched = 7) := by
  decide +kernel
example : (placeLimit { backOrder with price := 3/2 } false false 1000 { atb := book3 } false none 1).2.status = .failure := by
  decide +kernel

end Flumine.C05
