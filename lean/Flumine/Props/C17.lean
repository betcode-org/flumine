/-
  C17 — Price helpers and order validation agree with the exchange's ladders.
  Model: Ladder.lean / Validation.lean.
-/
import Flumine.Lemmas.LadderFacts
import Flumine.Validation
namespace Flumine.C17

/-- C17.2 for **every** rational input: the result of `get_nearest_price` is a tick of the ladder
    and no tick is strictly closer to the input. -/
theorem nearest_is_tick_and_closest (x : Rat) :
    nearestPrice x ∈ prices ∧ ∀ t ∈ prices, absR (nearestPrice x - x) ≤ absR (t - x) :=
  nearest_general cutoffs_ok rfl x

/-- C17.2 idempotence: a tick rounds to itself -/
theorem nearest_idempotent (t : Rat) (ht : t ∈ prices) : nearestPrice t = t := by
  have h := (nearest_is_tick_and_closest t).2 t ht
  rwa [sub_self, absR_eq_abs, absR_eq_abs, abs_zero, abs_nonpos_iff, sub_eq_zero] at h

/-- C17.2 clamping at both ends -/
theorem nearest_clamps_low (x : Rat) (h : x ≤ 101 / 100) : nearestPrice x = 101 / 100 := by
  unfold nearestPrice
  exact if_pos (h : x ≤ Gen.minPrice)

theorem nearest_clamps_high (x : Rat) (h : 1000 < x) : nearestPrice x = 1000 := by
  have h1 : Gen.minPrice < x := lt_trans (by decide +kernel) h
  unfold nearestPrice
  rw [if_neg (not_le.mpr h1)]
  exact if_pos (h : Gen.maxPrice < x)

example : nearestPrice (1507 / 1000) = 151 / 100 := by decide +kernel
example : nearestPrice (2.01) = 2.02 := by decide +kernel   -- half-way rounds up (ROUND_HALF_UP)

/-! ### C17.3 ticks away -/

theorem indexOf?_getElem (l : List Rat) (hl : l.Nodup) (k i : Nat) (hi : i < l.length) :
    indexOf? l[i] l k = some (k + i) := by
  induction l generalizing k i with
  | nil => simp at hi
  | cons y ys ih =>
    cases i with
    | zero => simp [indexOf?]
    | succ j =>
      have hj : j < ys.length := by simpa using hi
      have hne : ys[j] ≠ y := fun h => (List.nodup_cons.mp hl).1 (h ▸ List.getElem_mem hj)
      simp only [List.getElem_cons_succ, indexOf?, if_neg hne]
      rw [ih (List.nodup_cons.mp hl).2 (k + 1) j hj]
      congr 1; omega

theorem indexOf?_none (l : List Rat) (x : Rat) (k : Nat) (h : x ∉ l) : indexOf? x l k = none := by
  induction l generalizing k with
  | nil => rfl
  | cons y ys ih =>
    have h1 : x ≠ y := fun e => h (by simp [e])
    have h2 : x ∉ ys := fun e => h (by simp [e])
    simp [indexOf?, h1, ih (k + 1) h2]

theorem prices_nodup : prices.Nodup :=
  prices_strictly_increasing.imp (fun h => ne_of_lt h)

/-- C17.3 moving `n` ticks from the tick with index `i` lands on index `i + n`, clamped to the
    first tick below and to 1000 above.  (With `prices_strictly_increasing` the index *is* the
    tick count.) -/
theorem ticks_away_exact (i : Nat) (hi : i < prices.length) (n : Int) :
    ticksAway prices[i] n =
      if (i : Int) + n < 0 then some (101 / 100)
      else match prices[((i : Int) + n).toNat]? with
        | some p => some p
        | none => some 1000 := by
  unfold ticksAway
  rw [indexOf?_getElem prices prices_nodup 0 i hi]
  simp only [Nat.zero_add]
  rfl

/-- a price that is not a tick raises (ValueError in the code) -/
theorem ticks_away_off_ladder (x : Rat) (n : Int) (h : x ∉ prices) : ticksAway x n = none := by
  unfold ticksAway
  rw [indexOf?_none prices x 0 h]

-- evaluated on the published table: `make_prices` itself is run once, for `ladder_eq_published`
example : ticksAway 2 5 = some (21 / 10) := by rw [ladder_eq_published]; decide +kernel
example : ticksAway 2 (-500) = some (101 / 100) := by rw [ladder_eq_published]; decide +kernel
example : ticksAway 990 7 = some 1000 := by rw [ladder_eq_published]; decide +kernel

/-! ### C17.5 order validation is exact (an `iff`: a loosened *or* a tightened check breaks it) -/

def minLimitOk (c : ClientParams) (p s : Rat) : Prop :=
  c.minBetValidation = false ∨ c.minBetSize ≤ s ∨ c.minBetPayout ≤ p * s

def minSpOk (c : ClientParams) (side : Side) (l : Rat) : Prop :=
  c.minBetValidation = false ∨
    (match side with | .back => c.minBetSize ≤ l | .lay => c.minBspLiability ≤ l)

/-- The property, declaratively: price on the ladder of the market, size / liability positive with
    at most two decimals, and the account's minimum stake / payout / SP-liability rules met. -/
def Accept (c : ClientParams) : VOrder → Prop
  | .limit _ price size target ladder =>
      ∃ p s, price = some p ∧ pyOr size target = some s ∧ 0 < s ∧ twoDp s = true ∧
        onLadder ladder p = true ∧ minLimitOk c p s
  | .limitOnClose side liab price ladder =>
      ∃ p l, price = some p ∧ liab = some l ∧ onLadder ladder p = true ∧ 0 < l ∧ twoDp l = true ∧
        minSpOk c side l
  | .marketOnClose side liab =>
      ∃ l, liab = some l ∧ 0 < l ∧ twoDp l = true ∧ minSpOk c side l
  | .betdaqLimit _ price size =>
      ∃ p s, price = some p ∧ size = some s ∧ 0 < s ∧ twoDp s = true ∧ betdaqPrices.contains p = true

/-- `validate_size` and `validate_liability` are one check under two sets of messages: present,
    positive, two decimals -/
theorem posTwoDp_none (x : Option Rat) (m0 m1 m2 : String) :
    (match x with
      | none => some m0
      | some s => if s ≤ 0 then some m1 else if !twoDp s then some m2 else none) = none ↔
      ∃ v, x = some v ∧ 0 < v ∧ twoDp v = true := by
  cases x with
  | none => simp
  | some v => simp [ite_eq_iff]

theorem validateSize_none (x : Option Rat) :
    validateSize x = none ↔ ∃ v, x = some v ∧ 0 < v ∧ twoDp v = true := posTwoDp_none x _ _ _

theorem validateLiability_none (x : Option Rat) :
    validateLiability x = none ↔ ∃ v, x = some v ∧ 0 < v ∧ twoDp v = true := posTwoDp_none x _ _ _

theorem validateBetfairPrice_none (p : Option Rat) (l : LadderDef) :
    validateBetfairPrice p l = none ↔ ∃ v, p = some v ∧ onLadder l v = true := by
  cases p with
  | none => simp [validateBetfairPrice]
  | some v =>
    simp only [validateBetfairPrice]
    split_ifs with h
    · simp [h]
    · cases l <;> simp [h]

theorem validateMinLimit_none (c : ClientParams) (p s : Rat) :
    validateMinLimit c p s = none ↔ minLimitOk c p s := by
  simp [validateMinLimit, minLimitOk, imp_iff_not_or]

theorem validateMinSp_none (c : ClientParams) (side : Side) (l : Rat) :
    validateMinSp c side l = none ↔ minSpOk c side l := by
  unfold validateMinSp minSpOk
  cases hb : c.minBetValidation <;> cases side <;> simp

theorem firstErr_none (a : Option String) (b : Unit → Option String) :
    firstErr a b = none ↔ a = none ∧ b () = none := by
  cases a <;> simp [firstErr]

/-- C17.5 `OrderValidation` lets an order through **exactly** when the declarative condition holds. -/
theorem validation_exact (c : ClientParams) (o : VOrder) : validateOrder c o = none ↔ Accept c o := by
  cases o with
  | limit side price size target ladder =>
    simp only [validateOrder, Accept, firstErr_none, validateSize_none, validateBetfairPrice_none]
    generalize pyOr size target = sz
    constructor
    · rintro ⟨⟨s, rfl, hpos, h2⟩, ⟨p, rfl, hl⟩, h3⟩
      exact ⟨p, s, rfl, rfl, hpos, h2, hl, (validateMinLimit_none c p s).mp h3⟩
    · rintro ⟨p, s, rfl, rfl, hpos, h2, hl, hm⟩
      exact ⟨⟨s, rfl, hpos, h2⟩, ⟨p, rfl, hl⟩, (validateMinLimit_none c p s).mpr hm⟩
  | limitOnClose side liab price ladder =>
    simp only [validateOrder, Accept, firstErr_none, validateLiability_none, validateBetfairPrice_none]
    constructor
    · rintro ⟨⟨p, rfl, hl⟩, ⟨l, rfl, hpos, h2⟩, h3⟩
      exact ⟨p, l, rfl, rfl, hl, hpos, h2, (validateMinSp_none c side l).mp h3⟩
    · rintro ⟨p, l, rfl, rfl, hl, hpos, h2, hm⟩
      exact ⟨⟨p, rfl, hl⟩, ⟨l, rfl, hpos, h2⟩, (validateMinSp_none c side l).mpr hm⟩
  | marketOnClose side liab =>
    simp only [validateOrder, Accept, firstErr_none, validateLiability_none]
    constructor
    · rintro ⟨⟨l, rfl, hpos, h2⟩, h3⟩
      exact ⟨l, rfl, hpos, h2, (validateMinSp_none c side l).mp h3⟩
    · rintro ⟨l, rfl, hpos, h2, hm⟩
      exact ⟨⟨l, rfl, hpos, h2⟩, (validateMinSp_none c side l).mpr hm⟩
  | betdaqLimit side price size =>
    simp only [validateOrder, Accept, firstErr_none, validateSize_none]
    constructor
    · rintro ⟨⟨s, rfl, hpos, h2⟩, h3⟩
      cases price with
      | none => cases h3
      | some p => exact ⟨p, s, rfl, rfl, hpos, h2, by_contra fun hc => nomatch (if_neg hc).symm.trans h3⟩
    · rintro ⟨p, s, rfl, rfl, hpos, h2, hl⟩
      exact ⟨⟨s, rfl, hpos, h2⟩, if_pos hl⟩

/-- non-vacuity: a concrete order that is accepted, and one that is refused -/
def gbp : ClientParams := ⟨true, 1, 10, 10⟩
-- the ladder that `validateOrder` looks the price up in is replaced by the published table before the evaluation
example : validateOrder gbp (.limit .back (some 2) (some 1) none .classic) = none := by
  simp only [validateOrder, validateBetfairPrice, onLadder, ladder_eq_published]; decide +kernel
example : validateOrder gbp (.limit .back (some (201/100)) (some 1) none .classic) ≠ none := by
  simp only [validateOrder, validateBetfairPrice, onLadder, ladder_eq_published]; decide +kernel
example : validateOrder gbp (.limit .lay (some 100) (some (1/10)) none .classic) = none := by
  simp only [validateOrder, validateBetfairPrice, onLadder, ladder_eq_published]; decide +kernel
example : validateOrder gbp (.limit .lay (some 2) (some (1/10)) none .classic) ≠ none := by
  simp only [validateOrder, validateBetfairPrice, onLadder, ladder_eq_published]; decide +kernel

/-! ### finest ladder -/

theorem finest_runtime_ok : Gen.finestIsAllHundredths = true ∧ Gen.finestLen = 99900 := by decide +kernel

end Flumine.C17
