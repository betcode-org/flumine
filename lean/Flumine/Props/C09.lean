/-
  C09 — Runner removal voids bets on the runner and reduces the others once.
  Model: Mw.lean (`removalOnOrder` = loop body of `_process_runner_removal`, `reductionFactor`,
  `detectRemovals` = the per-market de-duplication of `SimulatedMiddleware.__call__`).
-/
import Flumine.Mw
import Flumine.Props.C04
import Flumine.Lemmas.SimLemmas
import Mathlib.Tactic.Linarith
import Flumine.Lemmas.Removed
namespace Flumine.C09
open Flumine.World Flumine.SimOrder

abbrev Key := Nat × Rat × Option Rat

/-! ### C09.1 void -/

/-- C09.1 (limit orders) — see `C04.removal_void_total`: whatever the buckets were (matched, partly
    cancelled, lapsed; any status), after the removal nothing is matched, nothing remains, the whole
    size is voided. -/
theorem void_total_limit (w : World) (m : Market) (rsel : Nat) (rhc : Rat) (raf : Option Rat) (o : Order)
    (hk : o.sim.kind = .limit) (hon : o.market = m.id ∧ o.sel = rsel ∧ o.hc = rhc) :
    (w.removalOnOrder m rsel rhc raf o).sim.sizeMatched = 0 ∧ (w.removalOnOrder m rsel rhc raf o).sim.matched = [] ∧
    (w.removalOnOrder m rsel rhc raf o).sim.sizeVoided = o.sim.size ∧
    (w.removalOnOrder m rsel rhc raf o).sim.sizeRemaining = 0 := by
  obtain ⟨a, b, _, _, e, f⟩ := C04.removal_void_total w m rsel rhc raf o hk hon
  exact ⟨a, b, e, f⟩

/-- C09.1 (starting-price orders) the liability is voided, nothing is matched, and the order is
    reported EXECUTION_COMPLETE by its simulated status, so the simulation loop completes it at the
    same update (no starting price will ever come for a non runner). -/
theorem void_total_sp (w : World) (m : Market) (rsel : Nat) (rhc : Rat) (raf : Option Rat) (o : Order)
    (hk : o.sim.kind ≠ .limit) (hon : o.market = m.id ∧ o.sel = rsel ∧ o.hc = rhc) :
    (w.removalOnOrder m rsel rhc raf o).sim.sizeMatched = 0 ∧ (w.removalOnOrder m rsel rhc raf o).sim.matched = [] ∧
    (w.removalOnOrder m rsel rhc raf o).sim.sizeVoided = o.sim.liability ∧
    (w.removalOnOrder m rsel rhc raf o).sim.simStatus = .executionComplete := by
  rw [removalOnOrder_on w m rsel rhc raf o hon]
  refine ⟨rfl, rfl, ?_, ?_⟩
  · cases hkk : o.sim.kind <;> simp_all
  · unfold simStatus takeSp
    cases hkk : o.sim.kind <;> simp_all

/-! ### C09.2 price reduction of matched fills on the other runners -/

/-- the reduced price is `max(round2(p (1 - af/100)), 1.01)` … -/
theorem reduction_formula (p af : Rat) :
    reductionFactor p af = ratMax (round2 (p * (1 - af / 100))) (101 / 100) := rfl

/-- … hence never below 1.01 -/
theorem reduction_floor (p af : Rat) : (101 : Rat) / 100 ≤ reductionFactor p af :=
  le_ratMax_right _ _

/-- an order that is not on the removed runner and is not a market-on-close lay -/
def Other (m : Market) (rsel : Nat) (rhc : Rat) (o : Order) : Prop :=
  ¬ (o.market = m.id ∧ o.sel = rsel ∧ o.hc = rhc) ∧ ¬ (o.sim.kind = .marketOnClose ∧ o.sim.side = .lay)

/-- C09.2 with a factor at or above the win-market threshold every matched fragment keeps its
    publish time and size and has its price reduced; the average is recomputed from the fragments -/
theorem reduction_applied (w : World) (m : Market) (rsel : Nat) (rhc : Rat) (af : Rat) (o : Order)
    (ho : Other m rsel rhc o) (haf : (5 : Rat) / 2 ≤ af) :
    (w.removalOnOrder m rsel rhc (some af) o).sim.matched =
      o.sim.matched.map (fun f => { f with price := reductionFactor f.price af }) ∧
    (w.removalOnOrder m rsel rhc (some af) o).sim.sizeMatched = o.sim.sizeMatched := by
  have h0 : af ≠ 0 := fun e => absurd (e ▸ haf) (by norm_num)
  have e : w.removalOnOrder m rsel rhc (some af) o = if af ≠ 0 ∧ Gen.winMinimumAdjustmentFactor ≤ af then _ else o :=
    removalOnOrder_other w m rsel rhc (some af) o ho.1 ho.2
  rw [e, if_pos ⟨h0, haf⟩]  -- `Gen.winMinimumAdjustmentFactor` unfolds to `5 / 2`
  exact ⟨rfl, rfl⟩

/-- C09.2 no factor, a zero factor or a factor below the threshold: nothing changes -/
theorem reduction_skipped (w : World) (m : Market) (rsel : Nat) (rhc : Rat) (raf : Option Rat) (o : Order)
    (ho : Other m rsel rhc o) (hsmall : ∀ af, raf = some af → af = 0 ∨ af < 5 / 2) :
    w.removalOnOrder m rsel rhc raf o = o := by
  rw [removalOnOrder_other w m rsel rhc raf o ho.1 ho.2]
  cases raf with
  | none => rfl
  | some af => exact if_neg fun ⟨h0, hth⟩ => (hsmall af rfl).elim h0 (not_lt.mpr hth)

/-! ### C09.3 market-on-close lay liabilities -/

theorem moc_lay_win (w : World) (m : Market) (rsel : Nat) (rhc : Rat) (af : Rat) (o : Order) (book : Book)
    (hb : m.book = some book) (hw : book.marketType = "WIN")
    (hno : ¬ (o.market = m.id ∧ o.sel = rsel ∧ o.hc = rhc)) (hm : o.sim.kind = .marketOnClose ∧ o.sim.side = .lay) :
    (w.removalOnOrder m rsel rhc (some af) o).sim.liability =
      o.sim.liability * (1 - af / (100 - ((runnerOf book o.sel o.hc).bind (·.af)).getD 0)) := by
  rw [removalOnOrder_mocLay w m rsel rhc _ o hno hm, hb, Option.getD_some, if_pos hw]
  exact scaleLiability_liability ..

theorem moc_lay_place (w : World) (m : Market) (rsel : Nat) (rhc : Rat) (af : Rat) (o : Order) (book : Book)
    (hb : m.book = some book) (hw : book.marketType = "PLACE" ∨ book.marketType = "OTHER_PLACE")
    (hno : ¬ (o.market = m.id ∧ o.sel = rsel ∧ o.hc = rhc)) (hm : o.sim.kind = .marketOnClose ∧ o.sim.side = .lay) :
    (w.removalOnOrder m rsel rhc (some af) o).sim.liability = o.sim.liability * ((100 - af) * (1 / 100)) := by
  have hnw : book.marketType ≠ "WIN" := by
    rcases hw with h | h <;> rw [h] <;> decide
  rw [removalOnOrder_mocLay w m rsel rhc _ o hno hm, hb, Option.getD_some, if_neg hnw, if_pos hw]
  exact scaleLiability_liability ..

/-! ### C09.4 each removal is applied exactly once per market -/

def stepDetect (acc : List Key × List Key) (r : Runner) : List Key × List Key :=
  if r.status = .removed then
    if acc.1.contains (r.sel, r.hc, r.af) then acc
    else (acc.1 ++ [(r.sel, r.hc, r.af)], acc.2 ++ [(r.sel, r.hc, r.af)])
  else acc

theorem detect_eq (runners : List Runner) (known : List Key) :
    detectRemovals runners known = runners.foldl stepDetect (known, []) := rfl

theorem stepDetect_cases (acc : List Key × List Key) (r : Runner) :
    (stepDetect acc r = acc ∧ (r.status = .removed → (r.sel, r.hc, r.af) ∈ acc.1)) ∨
    (r.status = .removed ∧ (r.sel, r.hc, r.af) ∉ acc.1 ∧
      stepDetect acc r = (acc.1 ++ [(r.sel, r.hc, r.af)], acc.2 ++ [(r.sel, r.hc, r.af)])) := by
  unfold stepDetect
  have hm : acc.1.contains (r.sel, r.hc, r.af) = true ↔ (r.sel, r.hc, r.af) ∈ acc.1 := List.contains_iff_mem
  by_cases hr : r.status = .removed
  · by_cases hc : acc.1.contains (r.sel, r.hc, r.af) = true
    · rw [if_pos hr, if_pos hc]
      exact .inl ⟨rfl, fun _ => hm.mp hc⟩
    · rw [if_pos hr, if_neg hc]
      exact .inr ⟨hr, mt hm.mpr hc, rfl⟩
  · rw [if_neg hr]
    exact .inl ⟨rfl, fun h => absurd h hr⟩

/-- C09.4a the removals detected in a book are exactly the REMOVED runners not yet in the market's
    list: each new one appears once (no duplicates), none was known before, each is a REMOVED runner of the book, and
    afterwards every removed runner of the book is in the list -/
theorem detect_spec (runners : List Runner) (known : List Key) :
    (detectRemovals runners known).1 = known ++ (detectRemovals runners known).2 ∧
    (detectRemovals runners known).2.Nodup ∧
    (∀ k ∈ (detectRemovals runners known).2, k ∉ known ∧ ∃ r ∈ runners, r.status = .removed ∧ (r.sel, r.hc, r.af) = k) ∧
    (∀ r ∈ runners, r.status = .removed → (r.sel, r.hc, r.af) ∈ (detectRemovals runners known).1) := by
  rw [detect_eq]
  -- what the loop keeps true of its accumulator
  have inv := List.foldlRecOn runners stepDetect (b := (known, []))
    (motive := fun acc => acc.1 = known ++ acc.2 ∧ acc.2.Nodup ∧
      ∀ k ∈ acc.2, k ∉ known ∧ ∃ r ∈ runners, r.status = .removed ∧ (r.sel, r.hc, r.af) = k)
    ⟨(List.append_nil _).symm, List.nodup_nil, fun _ hk => absurd hk List.not_mem_nil⟩ fun acc ⟨h1, h2, h3⟩ r hr => by
      rcases stepDetect_cases acc r with ⟨e, _⟩ | ⟨hrem, hnew, e⟩ <;> rw [e]
      · exact ⟨h1, h2, h3⟩
      · rw [h1] at hnew
        refine ⟨by rw [h1, List.append_assoc], nodup_snoc h2 fun h => hnew (List.mem_append_right _ h), fun k hk => ?_⟩
        rcases List.mem_append.mp hk with hk | hk
        · exact h3 k hk
        · rw [List.mem_singleton.mp hk]
          exact ⟨fun h => hnew (List.mem_append_left _ h), r, hr, hrem, rfl⟩
  refine ⟨inv.1, inv.2.1, inv.2.2, fun r hr hrem => ?_⟩
  -- once `r` has been handled it is in the list, and the list only grows
  obtain ⟨pre, post, rfl⟩ := List.append_of_mem hr
  rw [List.foldl_append, List.foldl_cons]
  refine List.foldlRecOn post stepDetect (motive := fun acc => (r.sel, r.hc, r.af) ∈ acc.1) ?_ fun acc h x _ => ?_
  · rcases stepDetect_cases (pre.foldl stepDetect (known, [])) r with ⟨e, h⟩ | ⟨_, _, e⟩ <;> rw [e]
    · exact h hrem
    · exact List.mem_append_right _ (List.mem_singleton_self _)
  · rcases stepDetect_cases acc x with ⟨e, _⟩ | ⟨_, _, e⟩ <;> rw [e]
    · exact h
    · exact List.mem_append_left _ h

theorem detect_nodup (runners : List Runner) {known : List Key} (h : known.Nodup) : (detectRemovals runners known).1.Nodup := by
  obtain ⟨h1, h2, h3, _⟩ := detect_spec runners known
  rw [h1]
  exact List.nodup_append.mpr ⟨h, h2, fun a ha b hb e => (h3 b hb).1 (e ▸ ha)⟩

theorem detect_noop (runners : List Runner) (known : List Key)
    (h : ∀ r ∈ runners, r.status = .removed → (r.sel, r.hc, r.af) ∈ known) : detectRemovals runners known = (known, []) := by
  obtain ⟨h1, _, h3, _⟩ := detect_spec runners known
  -- a runner detected would be a REMOVED runner of the book that is not in the list
  have h2 : (detectRemovals runners known).2 = [] :=
    List.eq_nil_iff_forall_not_mem.mpr fun k hk =>
      let ⟨hn, r, hr, hrem, e⟩ := h3 k hk
      hn (e ▸ h r hr hrem)
  rw [h2, List.append_nil] at h1
  exact Prod.ext h1 h2

/-- C09.4b **exactly once per market**: presenting the same book again (or any later book whose
    removed runners carry the same factors — the stated assumption) to the market's list detects
    nothing new, so `_process_runner_removal` is not called a second time.  The list is the market's
    own (`Market.removals`), so another market of the run starts from its own, empty list. -/
theorem detect_idempotent (runners : List Runner) (known : List Key) :
    detectRemovals runners (detectRemovals runners known).1 = ((detectRemovals runners known).1, []) :=
  detect_noop runners _ (detect_spec runners known).2.2.2

/-- a second market (empty list) does detect the same runner and factor again -/
example :
    (detectRemovals [{ sel := 7, status := .removed, af := some 20 }] []).2 = [(7, 0, some 20)] ∧
    (detectRemovals [{ sel := 7, status := .removed, af := some 20 }] [(7, 0, some 20)]).2 = [] := by
  decide +kernel


/-! ### C09.4 for whole runs (`Lemmas/Removed.lean`) -/

open Flumine.Removed Flumine.Inv in
/-- C09 whole-run: take ANY run - any sequence of updates of any markets in any interleaving, any scripted behaviour of any
    strategies.  The markets' own lists of applied runner removals at the end are exactly what this specification computes from
    the updates alone: a closing update changes nothing; any other update makes its market known and appends to THAT market's
    list the REMOVED runners (selection, handicap, adjustment factor) of the book that are not in it yet.  No request, package,
    matching pass, callback or update of another market touches a market's list. -/
theorem removal_lists_whole_run (cfg : Config) (cl : List Client) (ss : List Strategy) (us : List (Nat × Book × (Nat → List Action))) :
    (runUpdates { cfg := cfg, clients := cl, strategies := ss } us).mrem = us.foldl specRem [] :=
  runUpdates_mrem { cfg := cfg, clients := cl, strategies := ss } us

open Flumine.Removed in
/-- the removals an update hands to `_process_runner_removal` are the newly detected ones - by `detect_spec` each once and none
    of them in the market's list before -/
theorem removals_processed_are_new (w : World) (mid : Nat) :
    (w.mwUpdateAnalytics mid).2 = (detectRemovals ((w.market! mid).book.getD {}).runners (w.market! mid).removals).2 := rfl

open Flumine.Removed in
theorem specRem_nodup (K : List (Nat × List Key)) (u : Nat × Book × (Nat → List Action)) (h : ∀ e ∈ K, e.2.Nodup) :
    ∀ e ∈ specRem K u, e.2.Nodup := by
  unfold specRem
  split
  · exact h
  · simp only
    have hK' : ∀ e ∈ (if u.1 ∈ K.map (·.1) then K else K ++ [(u.1, [])]), e.2.Nodup := by
      split
      · exact h
      · exact List.forall_mem_append.mpr ⟨h, List.forall_mem_singleton.mpr List.nodup_nil⟩
    generalize (if u.1 ∈ K.map (·.1) then K else K ++ [(u.1, [])]) = K' at hK'
    intro e he
    obtain ⟨x, hx, rfl⟩ := List.mem_map.mp he
    split
    · exact detect_nodup _ ((lookupRem_cases K' u.1).elim (fun e => e ▸ List.nodup_nil) (hK' _))
    · exact hK' x hx

open Flumine.Removed Flumine.Inv in
/-- C09 "once", whole-run: in every state reachable by any run, no market's list of applied removals holds a (selection,
    handicap, factor) twice - and since an update only processes what is not in the list yet (`removals_processed_are_new`,
    `detect_spec`), no removal is ever applied twice to the orders of a market, however often and in whatever books it is
    reported, while another market of the run applies it for itself -/
theorem removals_applied_once_whole_run (cfg : Config) (cl : List Client) (ss : List Strategy) (us : List (Nat × Book × (Nat → List Action))) :
    ∀ e ∈ (runUpdates { cfg := cfg, clients := cl, strategies := ss } us).mrem, e.2.Nodup := by
  rw [removal_lists_whole_run]
  exact List.foldlRecOn us specRem (motive := fun K => ∀ e ∈ K, e.2.Nodup) (fun _ he => absurd he List.not_mem_nil) fun K h u _ => specRem_nodup K u h

/-- non-vacuity: runner 7 is reported REMOVED in two books of market 1 and in one of market 2: applied once in each -/
def nvRemBook (pt : Int) : Book := { pt := pt, activeRunners := 1, runners := [{ sel := 1 }, { sel := 7, status := .removed, af := some 20 }] }
example : (Inv.runUpdates {} [(1, nvRemBook 1000, fun _ => []), (1, nvRemBook 2000, fun _ => []), (2, nvRemBook 2500, fun _ => [])]).mrem =
    [(1, [(7, 0, some 20)]), (2, [(7, 0, some 20)])] := by decide +kernel

end Flumine.C09
