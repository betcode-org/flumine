/-
  C03 — Order lifecycle: one operation in flight, legal transitions, finality.
  Model: World.orderCancel / orderUpdate / orderReplace (BetfairOrder guards), orderUpdateStatus and the
  status primitives, the per-order bodies of the simulated response handlers (SimExec.placeStep,
  cancelStep, updateStep) and the completion loop step (processSimulatedOrders).
-/
import Flumine.SimLoop
import Flumine.Lemmas.OrderLemmas
import Flumine.Lemmas.Final
import Flumine.Lemmas.Flight
import Flumine.Lemmas.Shape
import Flumine.Props.C02
import Flumine.Betdaq
import Flumine.Lemmas.SimLemmas
namespace Flumine.C03
open Flumine.World Flumine.OL Flumine.SimOrder

/-! ### the documented lifecycle -/

/-- pending → executable | complete; executable → cancelling | updating | replacing | complete;
    cancelling / updating / replacing → executable | complete; complete is final (a repeated
    completion report is not a return to life); a refused new order goes straight to violation -/
def legal : Option Status → Status → Bool
  | none, .pending => true
  | none, .violation => true
  | none, .executionComplete => true     -- a replacement order whose re-placement is refused (fix f690683)
  | some .pending, .executable => true
  | some .pending, .executionComplete => true
  | some .executable, .cancelling => true
  | some .executable, .updating => true
  | some .executable, .replacing => true
  | some .executable, .executionComplete => true
  | some .cancelling, .executable => true
  | some .cancelling, .executionComplete => true
  | some .updating, .executable => true
  | some .updating, .executionComplete => true
  | some .replacing, .executable => true
  | some .replacing, .executionComplete => true
  | some .executionComplete, .executionComplete => true
  | _, _ => false

def inFlight (s : Option Status) : Bool :=
  s = some .pending || s = some .cancelling || s = some .updating || s = some .replacing

theorem complete_iff_status (s : Status) :
    statusComplete s = true ↔ s = .executionComplete ∨ s = .expired ∨ s = .violation := by
  cases s <;> decide

/-- no legal step leaves a complete status for a live one -/
theorem legal_final (s t : Status) (hs : statusComplete s = true) (hl : legal (some s) t = true) : statusComplete t = true := by
  rcases (complete_iff_status s).mp hs with rfl | rfl | rfl
  · cases t <;> first | rfl | cases hl      -- EXECUTION_COMPLETE steps to itself only
  · cases t <;> cases hl                    -- EXPIRED and VIOLATION step nowhere
  · cases t <;> cases hl

/-! ### C03.1 guards: a cancel / update / replace is accepted only on an executable order with a bet id and a compatible type -/

def isOk {ε α} : Except ε α → Bool | .ok _ => true | .error _ => false

theorem isOk_orderReq (w : World) (oid : Nat) (g : Order → Option ReqErr) (upd : Order → Order) (s : Status) :
    isOk (w.orderReq oid g upd s) = true ↔ g (w.order! oid) = none := by
  unfold orderReq
  cases g (w.order! oid) <;> simp [isOk]

theorem cancel_accepted_iff (w : World) (oid : Nat) (red : Option Rat) :
    isOk (w.orderCancel oid red) = true ↔
      (w.order! oid).betId.isSome = true ∧ (w.order! oid).sim.kind = .limit ∧ (w.order! oid).status = some .executable ∧
      reductionTooLarge (w.order! oid) red = false := by
  rw [orderCancel_eq, isOk_orderReq, reqGuard_none_iff, Bool.not_eq_true]

theorem update_accepted_iff (w : World) (oid : Nat) (pers : String) :
    isOk (w.orderUpdate oid pers) = true ↔
      (w.order! oid).betId.isSome = true ∧ (w.order! oid).sim.kind = .limit ∧ (w.order! oid).status = some .executable ∧
      (w.order! oid).sim.persistence ≠ pers := by
  rw [orderUpdate_eq, isOk_orderReq, reqGuard_none_iff]

theorem replace_accepted_iff (w : World) (oid : Nat) (price : Rat) :
    isOk (w.orderReplace oid price) = true ↔
      (w.order! oid).betId.isSome = true ∧ ((w.order! oid).sim.kind = .limit ∨ (w.order! oid).sim.kind = .limitOnClose) ∧
      (w.order! oid).status = some .executable ∧ (w.order! oid).sim.price ≠ price := by
  rw [orderReplace_eq, isOk_orderReq, reqGuard_none_iff]

/-- a rejection is an `Except.error`: it carries no world, so nothing was changed -/
theorem rejected_unless_executable (w : World) (oid : Nat) (h : (w.order! oid).status ≠ some .executable) :
    (∀ red, isOk (w.orderCancel oid red) = false) ∧ (∀ pers, isOk (w.orderUpdate oid pers) = false) ∧
    (∀ price, isOk (w.orderReplace oid price) = false) :=
  ⟨fun red => Bool.eq_false_iff.mpr fun hr => h ((cancel_accepted_iff w oid red).mp hr).2.2.1,
   fun pers => Bool.eq_false_iff.mpr fun hr => h ((update_accepted_iff w oid pers).mp hr).2.2.1,
   fun price => Bool.eq_false_iff.mpr fun hr => h ((replace_accepted_iff w oid price).mp hr).2.2.1⟩

/-! ### C03.2 an accepted request puts exactly one operation in flight -/

/-- at most one operation per order is outstanding: after any accepted request every further
    request on that order is rejected -/
theorem one_in_flight (w w' : World) (oid : Nat) (ho : HasOrder w oid)
    (h : (∃ red, w.orderCancel oid red = .ok w') ∨ (∃ pers, w.orderUpdate oid pers = .ok w') ∨ (∃ price, w.orderReplace oid price = .ok w')) :
    inFlight (w'.order! oid).status = true ∧
    (∀ red, isOk (w'.orderCancel oid red) = false) ∧ (∀ pers, isOk (w'.orderUpdate oid pers) = false) ∧
    (∀ price, isOk (w'.orderReplace oid price) = false) := by
  obtain ⟨_, f, s, _, hs, rfl⟩ : Rules.Accepts w w' oid := by
    rcases h with ⟨_, h⟩ | ⟨_, h⟩ | ⟨_, h⟩
    exacts [Rules.orderCancel_accepts h, Rules.orderUpdate_accepts h, Rules.orderReplace_accepts h]
  -- the order is left stamped with the in-flight status `s` of the request
  have hst : (((w.setOrder (f (w.order! oid))).orderUpdateStatus oid s).order! oid).status = some s := by
    rw [orderUpdateStatus_self _ oid s (hasOrder_setOrder w _ oid ho)]; rfl
  rw [hst]
  exact ⟨by rcases hs with rfl | rfl | rfl <;> rfl,
    rejected_unless_executable _ oid (by rw [hst]; rcases hs with rfl | rfl | rfl <;> nofun)⟩

theorem noted_then_status (w : World) (oid : Nat) (o1 : Order) (s : Status) (ho : HasOrder w oid) (hid : o1.id = oid) :
    ((w.setOrder o1).orderUpdateStatus oid s).order! oid = stamped o1 w.clock s := by
  rw [orderUpdateStatus_self _ oid s (hasOrder_setOrder w o1 oid ho), order!_setOrder_self w o1 hid ho]; rfl

/-- C03.2 an accepted cancel appends exactly one legal step (executable → cancelling) and keeps sizes and bet id -/
theorem cancel_effect (w w' : World) (oid : Nat) (red : Option Rat) (ho : HasOrder w oid)
    (h : w.orderCancel oid red = .ok w') :
    (w'.order! oid).status = some .cancelling ∧ (w'.order! oid).log = (w.order! oid).log ++ [.cancelling] ∧
    (w'.order! oid).sim = (w.order! oid).sim ∧ (w'.order! oid).betId = (w.order! oid).betId ∧
    legal (w.order! oid).status .cancelling = true := by
  obtain ⟨hx, rfl⟩ := orderCancel_ok h
  rw [noted_then_status w oid _ .cancelling ho ?_, hx]
  · generalize w.order! oid = o   -- a variable: `rfl` would look into the lookup first
    exact ⟨rfl, rfl, rfl, rfl, rfl⟩
  · exact order!_id w oid ho

theorem update_effect (w w' : World) (oid : Nat) (pers : String) (ho : HasOrder w oid)
    (h : w.orderUpdate oid pers = .ok w') :
    (w'.order! oid).status = some .updating ∧ (w'.order! oid).log = (w.order! oid).log ++ [.updating] ∧
    (w'.order! oid).sim.sizeMatched = (w.order! oid).sim.sizeMatched ∧ (w'.order! oid).betId = (w.order! oid).betId ∧
    legal (w.order! oid).status .updating = true := by
  obtain ⟨hx, rfl⟩ := orderUpdate_ok h
  rw [noted_then_status w oid _ .updating ho ?_, hx]
  · generalize w.order! oid = o
    exact ⟨rfl, rfl, rfl, rfl, rfl⟩
  · exact order!_id w oid ho

theorem replace_effect (w w' : World) (oid : Nat) (price : Rat) (ho : HasOrder w oid)
    (h : w.orderReplace oid price = .ok w') :
    (w'.order! oid).status = some .replacing ∧ (w'.order! oid).log = (w.order! oid).log ++ [.replacing] ∧
    (w'.order! oid).sim = (w.order! oid).sim ∧ (w'.order! oid).betId = (w.order! oid).betId ∧
    legal (w.order! oid).status .replacing = true := by
  obtain ⟨hx, rfl⟩ := orderReplace_ok h
  rw [noted_then_status w oid _ .replacing ho ?_, hx]
  · generalize w.order! oid = o
    exact ⟨rfl, rfl, rfl, rfl, rfl⟩
  · exact order!_id w oid ho

/-- a pending order (placement in flight) rejects everything as well -/
theorem pending_rejects (w : World) (oid : Nat) (h : (w.order! oid).status = some .pending) :
    (∀ red, isOk (w.orderCancel oid red) = false) ∧ (∀ pers, isOk (w.orderUpdate oid pers) = false) ∧
    (∀ price, isOk (w.orderReplace oid price) = false) :=
  rejected_unless_executable w oid (by rw [h]; decide)

/-! ### the status primitives on the order they are applied to -/

/-- C03.3 finality of `executable()`: a complete order ignores it (fix 4d8e701) -/
theorem executable_keeps_complete (w : World) (oid : Nat) (ho : HasOrder w oid) (hc : (w.order! oid).complete = true) :
    ((w.orderExecutable oid).order! oid).complete = true ∧ ((w.orderExecutable oid).order! oid).status = (w.order! oid).status ∧
    ((w.orderExecutable oid).order! oid).log = (w.order! oid).log ∧ ((w.orderExecutable oid).order! oid).sim = (w.order! oid).sim := by
  rw [executable_self w oid ho, if_pos hc]
  exact ⟨hc, rfl, rfl, rfl⟩

/-! ### C03.3 response handlers: the order handled -/

/-- what a response handler may leave behind on the order it handles: the order with new simulated
    sizes, either untouched in status (already complete: final), or moved by one step to executable
    or to complete -/
inductive HandlerOutcome (o o' : Order) : Prop
  | final (hc : o.complete = true) (h1 : o'.complete = true) (h2 : o'.status = o.status) (h3 : o'.log = o.log)
  | toExecutable (hc : o.complete = false) (h2 : o'.status = some .executable) (h3 : o'.log = o.log ++ [.executable])
  | toComplete (h1 : o'.complete = true) (h2 : o'.status = some .executionComplete) (h3 : o'.log = o.log ++ [.executionComplete])

theorem outcome_never_revives (o o' : Order) (h : HandlerOutcome o o') (hc : o.complete = true) : o'.complete = true := by
  cases h with
  | final _ h1 _ _ => exact h1
  | toExecutable hc' _ _ => rw [hc] at hc'; cases hc'
  | toComplete h1 _ _ => exact h1

/-- `complete` is the cached value of `_is_complete()` for the current status -/
def Consistent (o : Order) : Prop := ∀ s, o.status = some s → o.complete = statusComplete s

theorem stamped_consistent (o : Order) (now : Time) (s : Status) : Consistent (stamped o now s) := by
  intro t ht
  have : s = t := Option.some.inj ht
  subst this; rfl

/-- the step appended is a legal one when the order was in flight -/
theorem outcome_legal (o o' : Order) (h : HandlerOutcome o o') (hcons : Consistent o) (hf : inFlight o.status = true) :
    ∃ s, o'.log = o.log ++ [s] ∧ legal o.status s = true := by
  have hst : o.status = some .pending ∨ o.status = some .cancelling ∨ o.status = some .updating ∨ o.status = some .replacing := by
    unfold inFlight at hf
    simpa only [Bool.or_eq_true, decide_eq_true_eq, or_assoc] using hf
  have hnc : o.complete = false := by
    rcases hst with e | e | e | e <;> rw [hcons _ e] <;> rfl
  cases h with
  | final hc _ _ _ => rw [hnc] at hc; cases hc
  | toExecutable _ _ h3 => exact ⟨.executable, h3, by rcases hst with e | e | e | e <;> rw [e] <;> rfl⟩
  | toComplete _ _ h3 => exact ⟨.executionComplete, h3, by rcases hst with e | e | e | e <;> rw [e] <;> rfl⟩

/-- the end of every response handler: the order is made executable or complete and the trade context is left -/
theorem finish_outcome (w2 w3 : World) (oid tr : Nat) (o : Order) (ho2 : HasOrder w2 oid)
    (hs : (w2.order! oid).status = o.status) (hl : (w2.order! oid).log = o.log) (hc : (w2.order! oid).complete = o.complete)
    (h3 : w3 = w2.orderExecutable oid ∨ w3 = w2.orderExecutionComplete oid) :
    HandlerOutcome o ((w3.tradeExit tr).order! oid) ∧ ((w3.tradeExit tr).order! oid).sim = (w2.order! oid).sim := by
  rw [order!_congr _ _ (tradeExit_orders _ _)]
  rcases h3 with rfl | rfl
  · rw [executable_self w2 oid ho2]
    generalize w2.order! oid = o2 at hs hl hc ⊢
    by_cases h : o2.complete = true
    · rw [if_pos h]; exact ⟨.final (hc ▸ h) h hs hl, rfl⟩
    · rw [if_neg h]; exact ⟨.toExecutable (hc ▸ Bool.eq_false_iff.mpr h) rfl (congrArg (· ++ [Status.executable]) hl), rfl⟩
  · rw [executionComplete_self w2 oid ho2]
    generalize w2.order! oid = o2 at hl ⊢
    exact ⟨.toComplete rfl rfl (congrArg (· ++ [Status.executionComplete]) hl), rfl⟩

/-- execute_cancel, for the order it handles: the response moves a cancelling order to executable or
    complete by one legal step, leaves an order that completed meanwhile complete, and never changes
    its matched size -/
theorem cancelStep_outcome (p : Package) (w : World) (failed oid : Nat) (ho : HasOrder w oid) :
    HandlerOutcome (w.order! oid) ((cancelStep p (w, failed) oid).1.order! oid) ∧
    ((cancelStep p (w, failed) oid).1.order! oid).sim.sizeMatched = (w.order! oid).sim.sizeMatched := by
  rw [cancelStep_fst]
  unfold cancelOne
  extract_lets o w1 book red r w2 w3
  have ho1 : HasOrder w1 oid := (hasOrder_congr _ _ (tradeEnter_orders w o.trade) oid).mpr ho
  have e1 : w1.order! oid = w.order! oid := order!_congr _ _ (tradeEnter_orders w o.trade) oid
  have e2 : w2.order! oid = _ := order!_modify_self w1 oid _ ho1
  have h3 : w3 = w2.orderExecutable oid ∨ w3 = w2.orderExecutionComplete oid := by
    unfold w3
    split
    · split
      · exact .inr rfl
      · exact .inl rfl
    · exact .inl rfl
  obtain ⟨h, hsim⟩ := finish_outcome w2 w3 oid o.trade (w.order! oid) (hasOrder_modify w1 oid oid _ ho1)
    (by rw [e2, e1]) (by rw [e2, e1]) (by rw [e2, e1]) h3
  clear_value w1 w3
  exact ⟨h, by rw [hsim, e2]; rcases cancel_fst o.sim book.status red with e | ⟨c, e⟩ <;> exact congrArg (·.sizeMatched) e⟩

/-- execute_update, for the order it handles -/
theorem updateStep_outcome (p : Package) (w : World) (failed oid : Nat) (ho : HasOrder w oid) :
    HandlerOutcome (w.order! oid) ((updateStep p (w, failed) oid).1.order! oid) ∧
    ((updateStep p (w, failed) oid).1.order! oid).sim.sizeMatched = (w.order! oid).sim.sizeMatched := by
  rw [updateStep_fst]
  unfold updateOne
  extract_lets o w1 book r w2
  have ho1 : HasOrder w1 oid := (hasOrder_congr _ _ (tradeEnter_orders w o.trade) oid).mpr ho
  have e1 : w1.order! oid = w.order! oid := order!_congr _ _ (tradeEnter_orders w o.trade) oid
  have e2 : w2.order! oid = _ := order!_modify_self w1 oid _ ho1
  obtain ⟨h, hsim⟩ := finish_outcome w2 _ oid o.trade (w.order! oid) (hasOrder_modify w1 oid oid _ ho1)
    (by rw [e2, e1]) (by rw [e2, e1]) (by rw [e2, e1]) (.inl rfl)
  clear_value w1
  exact ⟨h, by rw [hsim, e2]; rcases update_fst o.sim book.view o.sim.persistence with e | e <;> exact congrArg (·.sizeMatched) e⟩

/-- execute_place, for the order it handles: pending goes to executable or complete by one legal
    step; an order that completed while the placement was in flight stays complete -/
theorem placeStep_outcome (p : Package) (w : World) (oid : Nat) (ho : HasOrder w oid) :
    HandlerOutcome (w.order! oid) ((placeStep p w oid).order! oid) := by
  obtain ⟨w1, h1, e⟩ := placeStep_cases w p oid
  have c1 := h1.calm
  rcases e with e | e <;> rw [e]
  · exact (finish_outcome w1 _ oid _ _ ((c1.hasOrder oid).mpr ho) (c1.status oid) (c1.log oid) (c1.complete oid) (.inl rfl)).1
  · exact (finish_outcome w1 _ oid _ _ ((c1.hasOrder oid).mpr ho) (c1.status oid) (c1.log oid) (c1.complete oid) (.inr rfl)).1

/-! ### the completion loop -/

/-- `_process_simulated_orders` on one live order: a complete order is only taken off the live list
    (its status, log and sizes stay), any other order is either left alone or completed by one step -/
theorem loopStep_order (mid : Nat) (w : World) (oid : Nat) (ho : HasOrder w oid) :
    (C15.loopStep mid w oid).order! oid = w.order! oid ∨
    ((w.order! oid).complete = false ∧
      (C15.loopStep mid w oid).order! oid =
        { stamped (w.order! oid) w.clock .executionComplete with ud := {}, completeAt := some w.clock }) := by
  have hb : ∀ w' : World, (w'.blotterComplete mid oid).order! oid = w'.order! oid := fun _ => rfl
  by_cases hc : (w.order! oid).complete = true
  · left
    unfold C15.loopStep
    rw [if_pos hc]; exact hb w
  · rcases C15.loopStep_keeps_or_completes mid w oid with h | ⟨h, _⟩ | h
    · left; rw [h]
    · exact absurd h hc
    · right; rw [h, hb, executionComplete_self w oid ho]; exact ⟨Bool.eq_false_iff.mpr hc, rfl⟩


/-! ### C03.3 finality for whole runs (invariant by induction, `Lemmas/Final.lean`) -/

open Flumine.Fin Flumine.Inv in
/-- C03 finality, whole-run: take ANY history - any sequence of updates of any markets, in any interleaving, with
    any scripted behaviour of any strategies (requests batched or not, forced or not, refused or accepted, aimed
    at any order through a transaction of any market), packages executed after their latency, matching, removals,
    completion loop, closes and re-opens - and ANY continuation of it.  An order of a market's blotter that is
    EXECUTION_COMPLETE at some point is EXECUTION_COMPLETE (and `complete`) ever after and never leaves the
    blotter: no request, late response, reset, matching pass, removal or closure makes it live again. -/
theorem complete_is_final_whole_run (cfg : Config) (cl : List Client) (ss : List Strategy) (M : Nat)
    (past future : List (Nat × Book × (Nat → List Action))) (oid : Nat) :
    oid ∈ ((runUpdates { cfg := cfg, clients := cl, strategies := ss } past).market! M).blotter →
    ((runUpdates { cfg := cfg, clients := cl, strategies := ss } past).order! oid).status = some .executionComplete →
    ((runUpdates (runUpdates { cfg := cfg, clients := cl, strategies := ss } past) future).order! oid).status = some .executionComplete ∧
    ((runUpdates (runUpdates { cfg := cfg, clients := cl, strategies := ss } past) future).order! oid).complete = true ∧
    oid ∈ ((runUpdates (runUpdates { cfg := cfg, clients := cl, strategies := ss } past) future).market! M).blotter := by
  intro hb he
  have b1 := bi_reachable M cfg cl ss past
  obtain ⟨b2, s2⟩ := (fs_runUpdates M _ future).2 b1
  have hb2 := s2.1 oid hb
  have he2 := s2.2 oid hb he
  exact ⟨he2, ec_complete b2 oid hb2 he2, hb2⟩

open Flumine.Fin Flumine.Inv in
/-- in every reachable state every order of a blotter is in one of the statuses of a sent order (never back to
    "no status", never VIOLATION or EXPIRED) and its `complete` flag is the `_is_complete()` of that status -/
theorem blotter_orders_sent_whole_run (cfg : Config) (cl : List Client) (ss : List Strategy) (M : Nat)
    (us : List (Nat × Book × (Nat → List Action))) :
    ∀ oid ∈ ((runUpdates { cfg := cfg, clients := cl, strategies := ss } us).market! M).blotter,
      Sent ((runUpdates { cfg := cfg, clients := cl, strategies := ss } us).order! oid) :=
  (bi_reachable M cfg cl ss us).sent


/-! ### C03.1 at most one operation per order is outstanding, for whole runs (invariant by induction, `Lemmas/Flight.lean`) -/

/-- the operations waiting in the handler queue between two updates, as the ids of their orders: one entry per
    queued package that lists the order -/
def outstanding (w : World) : List Nat := w.queue.flatMap (·.orders)

theorem place_refused_in_blotter (w : World) (t : Txn) (oid : Nat) (v : Option Int) (ex : Bool)
    (h : oid ∈ (w.market! t.market).blotter) : (w.txnPlace t oid v ex true).2.2 = .error .alreadyPlaced := by
  rw [C02.forced_place_of_a_placed_order_refused w t oid v ex (.inl h)]

open Flumine.Fl Flumine.Inv in
/-- C03 one operation in flight, whole-run: take ANY history - any sequence of updates of any markets, in any
    interleaving, with any scripted behaviour of any strategies (requests batched or not, forced or not, refused or
    accepted, on any order), packages executed after their latency, matching, removals, completion loop, closes and
    re-opens - in which every request went through the market its order was created for (`foreign = 0`; flumine
    itself does not check that `order.market_id` is the market of the transaction).  Then no order has two
    operations outstanding, and an order with an outstanding operation rejects every further cancel, update and
    replace (its guards answer with an error, which changes nothing) and every further placement through its
    market, forced or not. -/
theorem one_operation_in_flight_whole_run (cfg : Config) (cl : List Client) (ss : List Strategy)
    (us : List (Nat × Book × (Nat → List Action)))
    (hloc : (runUpdates { cfg := cfg, clients := cl, strategies := ss } us).foreign = 0) :
    (outstanding (runUpdates { cfg := cfg, clients := cl, strategies := ss } us)).Nodup ∧
    ∀ oid ∈ outstanding (runUpdates { cfg := cfg, clients := cl, strategies := ss } us),
      (∀ red, isOk ((runUpdates { cfg := cfg, clients := cl, strategies := ss } us).orderCancel oid red) = false) ∧
      (∀ pers, isOk ((runUpdates { cfg := cfg, clients := cl, strategies := ss } us).orderUpdate oid pers) = false) ∧
      (∀ price, isOk ((runUpdates { cfg := cfg, clients := cl, strategies := ss } us).orderReplace oid price) = false) ∧
      (∀ t v ex, t.market = ((runUpdates { cfg := cfg, clients := cl, strategies := ss } us).order! oid).market →
        ((runUpdates { cfg := cfg, clients := cl, strategies := ss } us).txnPlace t oid v ex true).2.2 = .error .alreadyPlaced) := by
  have f := fi_reachable cfg cl ss us hloc
  generalize runUpdates { cfg := cfg, clients := cl, strategies := ss } us = w at f
  have hp : pendIds w none = outstanding w := pendIds_none w
  refine ⟨by rw [← hp]; exact f.nd, fun oid ho => ?_⟩
  rw [← hp] at ho
  obtain ⟨a, b, c⟩ := rejected_unless_executable w oid (f.ne oid ho)
  exact ⟨a, b, c, fun t v ex ht => place_refused_in_blotter w t oid v ex (by rw [ht]; exact f.hm oid ho)⟩

open Flumine.Fl Flumine.Inv in
/-- the counter of foreign requests never decreases: a run that ends with `foreign = 0` had `foreign = 0` after each
    of its updates, so the statement above holds at every update boundary of such a run -/
theorem one_operation_in_flight_every_prefix (cfg : Config) (cl : List Client) (ss : List Strategy)
    (past future : List (Nat × Book × (Nat → List Action)))
    (hloc : (runUpdates { cfg := cfg, clients := cl, strategies := ss } (past ++ future)).foreign = 0) :
    (outstanding (runUpdates { cfg := cfg, clients := cl, strategies := ss } past)).Nodup := by
  have happ : runUpdates { cfg := cfg, clients := cl, strategies := ss } (past ++ future) =
      runUpdates (runUpdates { cfg := cfg, clients := cl, strategies := ss } past) future := by
    unfold runUpdates; rw [List.foldl_append]
  rw [happ] at hloc
  have hle := (fi_runUpdates (runUpdates { cfg := cfg, clients := cl, strategies := ss } past) future).1
  rw [hloc] at hle
  exact (one_operation_in_flight_whole_run cfg cl ss past (Nat.le_zero.mp hle)).1


/-! ### the Betdaq order class (`BetdaqOrder`, `BetdaqExecution`, `process_betdaq_current_order`) -/

section Bdq
open Flumine.Betdaq

def bdqOk {α} : Except DErr α → Bool | .ok _ => true | .error _ => false

/-- `complete` is the cached `_is_complete()` of the status -/
def BdqCons (o : DOrder) : Prop := ∀ s, o.status = some s → o.complete = Betdaq.isCompleteStatus s

/-- the tests `BetdaqOrder.cancel` and `update` share, in their order: a bet id, the order type, the status -/
theorem bdqOk_guard (o x : DOrder) :
    bdqOk (if o.betId.isNone then .error .noBetId
      else if o.limit then (if o.status ≠ some .executable then .error .status else .ok x) else .error .onlyLimit) = true ↔
      o.betId.isSome = true ∧ o.limit = true ∧ o.status = some .executable := by
  unfold bdqOk
  cases o.betId <;> cases o.limit <;> by_cases hs : o.status = some .executable <;> simp [hs]

/-- C03.1 (Betdaq) a cancel is accepted exactly for a LIMIT order that rests executable with a bet id, without size reduction -/
theorem bdq_cancel_accepted_iff (o : DOrder) (sr : Bool) :
    bdqOk (Betdaq.cancel o sr) = true ↔ sr = false ∧ o.betId.isSome = true ∧ o.limit = true ∧ o.status = some .executable := by
  cases sr
  · exact (bdqOk_guard o _).trans ⟨fun h => ⟨rfl, h⟩, fun h => h.2⟩
  · exact ⟨nofun, fun h => nomatch h.1⟩

theorem bdq_update_accepted_iff (o : DOrder) :
    bdqOk (Betdaq.update o) = true ↔ o.betId.isSome = true ∧ o.limit = true ∧ o.status = some .executable :=
  bdqOk_guard o _

theorem bdq_rejected (o : DOrder) (h : o.status ≠ some .executable) :
    (∀ sr, bdqOk (Betdaq.cancel o sr) = false) ∧ bdqOk (Betdaq.update o) = false :=
  ⟨fun sr => Bool.eq_false_iff.mpr fun hr => h ((bdq_cancel_accepted_iff o sr).mp hr).2.2.2,
   Bool.eq_false_iff.mpr fun hr => h ((bdq_update_accepted_iff o).mp hr).2.2⟩

/-- C03.2 (Betdaq) an accepted request puts the order in flight by one logged step, and while it is in flight every
    further Betdaq.cancel or update is rejected -/
theorem bdq_cancel_in_flight (o o' : DOrder) (sr : Bool) (h : Betdaq.cancel o sr = .ok o') :
    o'.status = some .cancelling ∧ o'.log = o.log ++ [.cancelling] ∧ (∀ sr', bdqOk (Betdaq.cancel o' sr') = false) ∧ bdqOk (Betdaq.update o') = false := by
  obtain ⟨h1, h2, h3, h4⟩ := (bdq_cancel_accepted_iff o sr).mp (by rw [h]; rfl)
  unfold Betdaq.cancel at h
  rw [if_neg (by rw [h1]; exact Bool.false_ne_true), if_neg (by rw [Option.isNone_eq_false_iff.mpr h2]; exact Bool.false_ne_true),
    if_pos h3, if_neg (not_not.mpr h4)] at h
  cases h
  exact ⟨rfl, rfl, bdq_rejected _ nofun⟩

theorem bdq_update_in_flight (o o' : DOrder) (h : Betdaq.update o = .ok o') :
    o'.status = some .updating ∧ o'.log = o.log ++ [.updating] ∧ (∀ sr', bdqOk (Betdaq.cancel o' sr') = false) ∧ bdqOk (Betdaq.update o') = false := by
  obtain ⟨h2, h3, h4⟩ := (bdq_update_accepted_iff o).mp (by rw [h]; rfl)
  unfold Betdaq.update at h
  rw [if_neg (by rw [Option.isNone_eq_false_iff.mpr h2]; exact Bool.false_ne_true), if_pos h3, if_neg (not_not.mpr h4)] at h
  cases h
  exact ⟨rfl, rfl, bdq_rejected _ nofun⟩

/-- everything the execution handlers and the order stream can do to one order -/
inductive BdqOp
  | placeReport (returnCode : Nat) (orderId : Option Nat) | placeFailed
  | cancelReported | cancelNotReported | updateReport (returnCode : Nat) | updateFailed
  | stream (st : DStatus) (seq : Option Nat)

def bdqApply (o : DOrder) : BdqOp → DOrder
  | .placeReport rc b => Betdaq.placeReport o rc b
  | .placeFailed => Betdaq.placeFailed o
  | .cancelReported => Betdaq.cancelReported o
  | .cancelNotReported => Betdaq.cancelNotReported o
  | .updateReport rc => Betdaq.updateReport o rc
  | .updateFailed => Betdaq.updateFailed o
  | .stream st q => Betdaq.processCurrent o st q

theorem processCurrent_cases (o : DOrder) (st : DStatus) (q : Option Nat) :
    processCurrent o st q = { o with seq := q, cur := some st } ∨
    ((o.status = some .pending ∨ o.status = some .updating) ∧
      processCurrent o st q = Betdaq.executable { o with seq := q, cur := some st }) ∨
    ((o.status = some .pending ∨ o.status = some .updating ∨ o.status = some .executable) ∧
      processCurrent o st q = Betdaq.executionComplete { o with seq := q, cur := some st }) := by
  unfold processCurrent
  dsimp only
  by_cases h1 : o.status = some .pending ∧ o.betId.isSome = true
  · rw [if_pos h1]; split
    · exact .inr (.inl ⟨.inl h1.1, rfl⟩)
    · exact .inr (.inr ⟨.inl h1.1, rfl⟩)
  rw [if_neg h1]
  by_cases h2 : o.status = some .updating ∧ o.seq ≠ q
  · rw [if_pos h2]; split
    · exact .inr (.inl ⟨.inr h2.1, rfl⟩)
    · exact .inr (.inr ⟨.inr (.inl h2.1), rfl⟩)
  rw [if_neg h2]
  by_cases h3 : o.status = some .executable
  · rw [if_pos h3]; split
    · exact .inr (.inr ⟨.inr (.inr h3), rfl⟩)
    · exact .inl rfl
  · rw [if_neg h3]; exact .inl rfl

theorem bdqApply_cases (o : DOrder) (op : BdqOp) :
    ∃ o', (o'.status = o.status ∧ o'.log = o.log ∧ o'.complete = o.complete) ∧
      (bdqApply o op = o' ∨ bdqApply o op = Betdaq.executable o' ∨ bdqApply o op = Betdaq.executionComplete o') := by
  cases op with
  | placeReport rc b =>
    refine ⟨match b with | some b => { o with betId := some b } | none => o, by cases b <;> exact ⟨rfl, rfl, rfl⟩, ?_⟩
    show Betdaq.placeReport o rc b = _ ∨ _
    unfold Betdaq.placeReport
    by_cases hrc : rc = 0
    · exact .inr (.inl (if_pos hrc))
    · exact .inr (.inr (if_neg hrc))
  | placeFailed => exact ⟨o, ⟨rfl, rfl, rfl⟩, .inr (.inr rfl)⟩
  | cancelReported => exact ⟨o, ⟨rfl, rfl, rfl⟩, .inr (.inr rfl)⟩
  | cancelNotReported => exact ⟨o, ⟨rfl, rfl, rfl⟩, .inr (.inl rfl)⟩
  | updateReport rc =>
    refine ⟨o, ⟨rfl, rfl, rfl⟩, ?_⟩
    show Betdaq.updateReport o rc = _ ∨ _
    unfold Betdaq.updateReport
    by_cases hrc : rc ≠ 0
    · exact .inr (.inl (if_pos hrc))
    · exact .inl (if_neg hrc)
  | updateFailed => exact ⟨o, ⟨rfl, rfl, rfl⟩, .inr (.inl rfl)⟩
  | stream st q =>
    refine ⟨{ o with seq := q, cur := some st }, ⟨rfl, rfl, rfl⟩, ?_⟩
    rcases processCurrent_cases o st q with h | ⟨_, h⟩ | ⟨_, h⟩
    · exact .inl h
    · exact .inr (.inl h)
    · exact .inr (.inr h)

/-- the consistency of status and `complete` is kept by every handler and stream update -/
theorem bdq_apply_cons (o : DOrder) (op : BdqOp) (h : BdqCons o) : BdqCons (bdqApply o op) := by
  obtain ⟨o', ⟨hs, _, hc⟩, e⟩ := bdqApply_cases o op
  have h' : BdqCons o' := fun s hs' => by rw [hc]; exact h s (hs ▸ hs')
  rcases e with e | e | e <;> rw [e]
  · exact h'
  · unfold Betdaq.executable
    split
    · exact h'
    · intro t ht; cases ht; rfl
  · intro t ht; cases ht; rfl

/-- C03.3 (Betdaq) finality: whatever report arrives for it and whatever the order stream says, a complete order
    stays complete -/
theorem bdq_complete_is_final (o : DOrder) (op : BdqOp) (h : BdqCons o) (hc : o.complete = true) : (bdqApply o op).complete = true := by
  obtain ⟨o', ⟨_, _, hc'⟩, e⟩ := bdqApply_cases o op
  rw [← hc'] at hc
  rcases e with e | e | e <;> rw [e]
  · exact hc
  · unfold Betdaq.executable; rw [if_pos hc]; exact hc
  · rfl

/-- C03.3 (Betdaq) the order stream only ever moves an order by one legal step: pending or updating to executable or
    complete, executable to complete; anything else it leaves alone -/
theorem bdq_stream_steps_legal (o : DOrder) (st : DStatus) (q : Option Nat) (h : BdqCons o) :
    (Betdaq.processCurrent o st q).log = o.log ∧ (Betdaq.processCurrent o st q).status = o.status ∨
    ∃ s, (Betdaq.processCurrent o st q).log = o.log ++ [s] ∧ (Betdaq.processCurrent o st q).status = some s ∧ legal o.status s = true := by
  rcases processCurrent_cases o st q with e | ⟨hs, e⟩ | ⟨hs, e⟩ <;> rw [e]
  · exact .inl ⟨rfl, rfl⟩
  · -- PENDING and UPDATING are not complete statuses, so `executable` does move the order
    have hc : o.complete = false := by rcases hs with e | e <;> rw [h _ e] <;> rfl
    have hx : Betdaq.executable { o with seq := q, cur := some st } =
        { setStatus { o with seq := q, cur := some st } .executable with udSet := false } := by
      unfold Betdaq.executable; rw [if_neg (by rw [hc]; exact Bool.false_ne_true)]
    rw [hx]
    exact .inr ⟨.executable, rfl, rfl, by rcases hs with e | e <;> rw [e] <;> rfl⟩
  · exact .inr ⟨.executionComplete, rfl, rfl, by rcases hs with e | e | e <;> rw [e] <;> rfl⟩

/-- non-vacuity: placed, accepted by the exchange, cancel requested, a second cancel rejected, the report completes it,
    a late stream update and a late report change nothing -/
example : (let o0 : DOrder := Betdaq.placing {}
    let o1 := Betdaq.placeReport o0 0 (some 77)
    let o2 := match Betdaq.cancel o1 false with | .ok x => x | .error _ => o1
    (o1.status, o2.status, bdqOk (Betdaq.cancel o2 false), (Betdaq.cancelReported o2).status,
      (Betdaq.processCurrent (Betdaq.cancelReported o2) .unmatched (some 5)).status, (Betdaq.cancelNotReported (Betdaq.cancelReported o2)).status)) =
    (some .executable, some .cancelling, false, some .executionComplete, some .executionComplete, some .executionComplete) := by decide +kernel

end Bdq

/-! ### non-vacuity: a cancel accepted, every request after it rejected -/

def demoOrder : Order :=
  { id := 0, trade := 0, strategy := 0, market := 1, sel := 1, status := some .executable, log := [.pending, .executable],
    betId := some 7, sim := { side := .back, kind := .limit, price := 2, size := 10 } }
def demoWorld : World := { orders := [demoOrder], trades := [{ id := 0, strategy := 0, market := 1, sel := 1, orders := [0] }] }

example : HasOrder demoWorld 0 := ⟨demoOrder, rfl⟩
example : isOk (demoWorld.orderCancel 0 none) = true := by decide +kernel
example : (match demoWorld.orderCancel 0 none with
    | .ok w' => isOk (w'.orderCancel 0 none) || isOk (w'.orderUpdate 0 "PERSIST") || isOk (w'.orderReplace 0 3)
    | .error _ => true) = false := by decide +kernel


/-- non-vacuity of `complete_is_final_whole_run`: an order placed and fully matched is EXECUTION_COMPLETE after
    two updates (hypotheses hold); a later cancel request, a second placement of it and a placement of it through
    another market's transaction leave it so -/
def nvBook (pt : Int) : Book := { pt := pt, activeRunners := 2, runners := [{ sel := 1, atb := [⟨3, 10⟩], atl := [⟨4, 10⟩] }, { sel := 2 }] }
def nvOrder : Order := { id := 0, trade := 0, strategy := 0, market := 1, sel := 1, sim := { side := .back, kind := .limit, price := 2, size := 4 } }
def nvPast : List (Nat × Book × (Nat → List Action)) :=
  [(1, nvBook 1000, fun _ => [.create nvOrder (some { id := 0, strategy := 0, market := 1, sel := 1 }), .place (.byId 0) none false]), (1, nvBook 2000, fun _ => [])]
def nvFuture : List (Nat × Book × (Nat → List Action)) :=
  [(1, nvBook 3000, fun _ => [.cancel (.byId 0) none false, .place (.byId 0) none false]),
   (2, nvBook 3500, fun _ => [.place (.byId 0) none false]), (1, nvBook 4000, fun _ => [])]
def nvWorld : World := Inv.runUpdates { clients := [{ id := 0 }], strategies := [{ id := 0, streams := [0] }] } nvPast
/-- one evaluation of the run and its continuation serves the examples about `nvWorld` here and in `C03_WholeRun.lean` -/
theorem nvWorld_facts :
    (0 ∈ (nvWorld.market! 1).blotter ∧ (nvWorld.order! 0).status = some .executionComplete ∧
      (nvWorld.order! 0).log = [.pending, .executable, .executionComplete]) ∧ nvWorld.foreign = 0 ∧
    ((Inv.runUpdates nvWorld nvFuture).order! 0).status = some .executionComplete := by decide +kernel
example : 0 ∈ (nvWorld.market! 1).blotter ∧ (nvWorld.order! 0).status = some .executionComplete ∧
    (nvWorld.order! 0).log = [.pending, .executable, .executionComplete] := nvWorld_facts.1
example : ((Inv.runUpdates nvWorld nvFuture).order! 0).status = some .executionComplete := nvWorld_facts.2.2

/-- non-vacuity of `one_operation_in_flight_whole_run`: two orders placed, one package waiting (hypothesis holds, the
    queue is not empty); and why the hypothesis is there: the same order placed again through ANOTHER market while
    its placement is in flight is accepted by flumine (the already-placed test looks at the blotter of the
    transaction's market only) - two operations outstanding for order 0, counted as a foreign request -/
def nvFlight : World := Inv.runUpdates { clients := [{ id := 0 }], strategies := [{ id := 0, streams := [0], maxLive := 5, multiOrder := true }] }
  [(1, nvBook 1000, fun _ => [.create nvOrder (some { id := 0, strategy := 0, market := 1, sel := 1 }), .place (.byId 0) none false,
                              .create { nvOrder with trade := 1 } (some { id := 1, strategy := 0, market := 1, sel := 1 }), .place (.byId 1) none false])]
def nvForeign : World := Inv.runUpdates nvFlight [(2, nvBook 1010, fun _ => [.place (.byId 0) none true])]
/-- one evaluation of `nvFlight` and its continuation `nvForeign` serves the examples here and in `C03_WholeRun.lean` -/
theorem nvFlight_facts :
    (nvFlight.foreign = 0 ∧ outstanding nvFlight = [0, 1] ∧ (nvFlight.order! 0).status = some .pending) ∧
    (nvForeign.foreign = 1 ∧ outstanding nvForeign = [0, 1, 0]) ∧ (nvForeign.order! 0).log = [.pending, .pending] := by decide +kernel
example : nvFlight.foreign = 0 ∧ outstanding nvFlight = [0, 1] ∧ (nvFlight.order! 0).status = some .pending := nvFlight_facts.1
example : nvForeign.foreign = 1 ∧ outstanding nvForeign = [0, 1, 0] := nvFlight_facts.2.1

end Flumine.C03
