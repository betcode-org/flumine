/-
  C08 — Settlement: simulated profit follows the exchange's rules.
  Model: SimLoop.simProfit (`SimulatedOrder.profit`), marketCleared (`Market.cleared`), wap.
-/
import Flumine.SimLoop
import Flumine.Props.C04
import Flumine.Lemmas.SimLemmas
import Mathlib.Tactic.Linarith
import Mathlib.Tactic.Ring
namespace Flumine.C08
open Flumine.World Flumine.SimOrder

/-! ### rounding is odd -/

theorem roundHalfEven_neg (y : Rat) : roundHalfEven (-y) = -roundHalfEven y :=
  roundHalfEven_eq (roundHalfEven_spec y).neg

theorem round2_neg (x : Rat) : round2 (-x) = -round2 x := by
  rw [round2, round2, neg_mul, roundHalfEven_neg, Int.cast_neg, neg_div]

/-! ### C08.2 a back and a lay with identical fills have exactly opposite profit -/

def flip (o : Order) : Order := { o with sim := { o.sim with side := (match o.sim.side with | .back => .lay | .lay => .back) } }

@[simp] theorem deadHeatCount_with_sim (o : Order) (s : SimOrder) : deadHeatCount { o with sim := s } = deadHeatCount o := rfl

theorem back_lay_opposite (o : Order) (hb : o.sim.side = .back)
    (hline : ¬ (o.sim.kind = .limit ∧ o.ladder = .lineRange)) : simProfit (flip o) = - simProfit o := by
  unfold simProfit
  simp only [flip, hb, deadHeatCount_with_sim, hline, if_false, reduceCtorEq, if_true]
  -- in every branch the lay's figure is the back's negated, before or after the rounding
  split <;> rcases o.runnerStatus with _ | (_ | _ | _ | _ | _ | _) <;>
    simp only [← round2_neg, neg_neg, neg_zero, neg_sub]

/-! ### C08.3 nothing matched / removed / no result: zero -/

theorem removed_or_unsettled_zero (o : Order) (hline : ¬ (o.sim.kind = .limit ∧ o.ladder = .lineRange))
    (h : o.runnerStatus = some .removed ∨ o.runnerStatus = none ∨ o.runnerStatus = some .active ∨ o.runnerStatus = some .hidden) :
    simProfit o = 0 := by
  unfold simProfit
  rcases h with h | h | h | h <;> rw [h] <;> simp [hline]

theorem unmatched_zero (o : Order) (h0 : o.sim.sizeMatched = 0) (hline : ¬ (o.sim.kind = .limit ∧ o.ladder = .lineRange))
    (hew : o.marketType ≠ some "EACH_WAY") : simProfit o = 0 := by
  unfold simProfit
  simp only [hew, if_false, hline, h0]
  cases o.runnerStatus with
  | none => rfl
  | some r => cases r <;> simp [round2_zero]

/-! ### C08.1 profit against the per-fill payouts -/

def stake (m : List Frag) : Rat := sumRat (m.map fun f => f.size)
def weighted (m : List Frag) : Rat := sumRat (m.map fun f => f.price * f.size)

/-- what the exchange pays a backer on the individual fills when the runner wins (no dead heat) -/
def payoutWin (m : List Frag) : Rat := sumRat (m.map fun f => f.size * (f.price - 1))

theorem payoutWin_eq (m : List Frag) : payoutWin m = weighted m - stake m := by
  unfold payoutWin weighted stake
  induction m with
  | nil => simp [sumRat]
  | cons f fs ih => simp only [List.map_cons, sumRat, ih]; ring

/-- a winner's share before sign and rounding: the dead-heat rule of a market with `n` dead-heating winners applied to
    the matched size and the average price (`n = 1`: no dead heat) -/
def winShare (o : Order) (n : Nat) : Rat :=
  if n = 2 then (o.sim.sizeMatched / n) * (o.sim.avgPrice - 1) - o.sim.sizeMatched / n
  else if n > 2 then (o.sim.sizeMatched / n) * (o.sim.avgPrice - 1) - o.sim.sizeMatched * ((n : Rat) - 1) / n
  else (o.sim.sizeMatched / n) * (o.sim.avgPrice - 1)

theorem simProfit_winner (o : Order) (hw : o.runnerStatus = some .winner) (hew : o.marketType ≠ some "EACH_WAY")
    (hline : ¬ (o.sim.kind = .limit ∧ o.ladder = .lineRange)) :
    simProfit o = round2 (if o.sim.side = .lay then -winShare o (deadHeatCount o) else winShare o (deadHeatCount o)) := by
  unfold simProfit winShare
  rw [if_neg hew, if_neg hline, hw]

/-- C08.1 a winning back without dead heat: the profit the simulator reports (computed from the 2dp
    average price, then rounded) is within 0.005 x matched size + 0.005 of the sum of the per-fill
    payouts stake x (price - 1); it is exact up to the final rounding when all fills share a price.
    (`sizeMatched = stake`, `avgPrice = round2 (weighted/stake)` is what `wap` maintains, C04.wap_size.) -/
theorem win_profit_close (o : Order) (m : List Frag) (hm : o.sim.matched = m)
    (hs : o.sim.sizeMatched = stake m) (hpos : 0 < stake m) (havg : o.sim.avgPrice = round2 (weighted m / stake m))
    (hw : o.runnerStatus = some .winner) (hside : o.sim.side = .back) (hdh : o.deadHeat = none ∨ o.deadHeat = some 1)
    (hew : o.marketType ≠ some "EACH_WAY") (hline : ¬ (o.sim.kind = .limit ∧ o.ladder = .lineRange)) :
    absR (simProfit o - payoutWin m) ≤ (1 / 200) * stake m + 1 / 200 := by
  have hn : deadHeatCount o = 1 := by
    unfold deadHeatCount
    rcases hdh with h | h <;> rw [h] <;> rfl
  have hp : simProfit o = round2 (stake m * (round2 (weighted m / stake m) - 1)) := by
    rw [simProfit_winner o hw hew hline, hn, if_neg (by rw [hside]; decide)]
    unfold winShare
    rw [if_neg (by decide), if_neg (by decide), hs, havg, Nat.cast_one, div_one]
  rw [hp, payoutWin_eq]
  generalize stake m = S at hpos ⊢
  generalize weighted m = W
  -- two roundings: of the average price, scaled by the stake, and of the product
  have hB : absR (S * (round2 (W / S) - W / S)) ≤ 1 / 200 * S := by
    rw [mul_comm S, absR_mul_pos _ S hpos]
    exact mul_le_mul_of_nonneg_right (round2_err (W / S)) hpos.le
  have := absR_add_le hB (round2_err (S * (round2 (W / S) - 1)))
  have e : W - S = S * (W / S - 1) := by rw [mul_sub, mul_div_cancel₀ _ (ne_of_gt hpos), mul_one]
  rwa [show S * (round2 (W / S) - W / S) + (round2 (S * (round2 (W / S) - 1)) - S * (round2 (W / S) - 1)) =
      round2 (S * (round2 (W / S) - 1)) - (W - S) by rw [e]; ring] at this

/-- a losing back loses exactly the matched stake, a losing lay wins it (no rounding involved) -/
theorem lose_exact (o : Order) (hl : o.runnerStatus = some .loser) (hew : o.marketType ≠ some "EACH_WAY")
    (hline : ¬ (o.sim.kind = .limit ∧ o.ladder = .lineRange)) :
    simProfit o = (match o.sim.side with | .back => -o.sim.sizeMatched | .lay => o.sim.sizeMatched) := by
  unfold simProfit
  simp only [hew, if_false, hline, hl]
  cases o.sim.side <;> simp

/-- the dead-heat rule of a one-winner market with n dead-heating winners, on the average price:
    (s/n)(p - 1) - s(n - 1)/n -/
theorem dead_heat_formula (o : Order) (n : Nat) (hn : 2 ≤ n) (hw : o.runnerStatus = some .winner) (hside : o.sim.side = .back)
    (hdh : o.deadHeat = some n) (hew : o.marketType ≠ some "EACH_WAY") (hline : ¬ (o.sim.kind = .limit ∧ o.ladder = .lineRange)) :
    simProfit o = round2 ((o.sim.sizeMatched / n) * (o.sim.avgPrice - 1) - o.sim.sizeMatched * ((n : Rat) - 1) / n) := by
  have hc : deadHeatCount o = n := by unfold deadHeatCount; rw [hdh]; exact if_neg (by omega)
  rw [simProfit_winner o hw hew hline, hc, if_neg (by rw [hside]; decide)]
  unfold winShare
  by_cases h2 : n = 2
  · -- for two winners the code writes the deduction as s/2, which is s(2 - 1)/2
    subst h2; rw [if_pos rfl]; congr 2; push_cast; ring
  · rw [if_neg h2, if_pos (by omega)]

/-! ### C08.4 the market-level cleared summary -/

/-- the matched orders of one client in a market's blotter -/
def clientMatched (w : World) (mid cid : Nat) : List Order :=
  ((w.market! mid).blotter.map w.order!).filter fun o => o.blotterClient = some cid ∧ 0 < o.sim.sizeMatched

/-- profit in the summary = (2dp) sum of the profits of exactly that client's matched orders; bet count = their number -/
theorem cleared_profit_is_sum (w : World) (mid cid : Nat) :
    (w.marketCleared mid cid).1 = round2 (sumRat ((clientMatched w mid cid).map simProfit)) ∧
    (w.marketCleared mid cid).2.2 = (clientMatched w mid cid).length := ⟨rfl, rfl⟩

/-- commission is charged on the net profit at the client's rate, and never on a net loss -/
theorem commission_only_on_net_win (w : World) (mid cid : Nat) (hc : 0 ≤ (w.client! cid).commission) :
    0 ≤ (w.marketCleared mid cid).2.1 ∧
    ((w.marketCleared mid cid).1 ≤ 0 → (w.marketCleared mid cid).2.1 = 0) ∧
    (0 < (w.marketCleared mid cid).1 → (w.marketCleared mid cid).2.1 = round2 ((w.marketCleared mid cid).1 * (w.client! cid).commission)) := by
  unfold marketCleared
  simp only
  generalize round2 (sumRat _) = p
  refine ⟨round2_nonneg (le_ratMax_right _ _), fun hp => ?_, fun hp => ?_⟩
  · rw [ratMax_eq_right (mul_nonpos_of_nonpos_of_nonneg hp hc)]; exact round2_zero
  · rw [ratMax_eq_left (mul_nonneg (le_of_lt hp) hc)]

/-! ### line markets -/

/-- even-money settlement of a line order on its (average) line: above / below / equal -/
theorem line_settlement (o : Order) (lr : Rat) (hk : o.sim.kind = .limit) (hl : o.ladder = .lineRange)
    (hew : o.marketType ≠ some "EACH_WAY") (hr : o.lineResult = some lr) (hc : IsCents o.sim.sizeMatched) :
    simProfit o =
      (if o.sim.avgPrice = lr then 0
       else if (o.sim.side = .back ∧ lr < o.sim.avgPrice) ∨ (o.sim.side = .lay ∧ o.sim.avgPrice < lr) then o.sim.sizeMatched
       else -o.sim.sizeMatched) := by
  unfold simProfit
  simp only [hew, if_false, hk, hl, and_self, if_true, hr]
  have : round2 (o.sim.sizeMatched * (2 - 1)) = o.sim.sizeMatched := by
    rw [show o.sim.sizeMatched * (2 - 1) = o.sim.sizeMatched by ring]; exact round2_of_isCents hc
  rw [this]

/-- with the stake returned on equality (fix c11f0ea) a back and a lay on the same line with the same
    2dp size are exactly opposite on line markets too -/
theorem line_back_lay_opposite (o : Order) (hb : o.sim.side = .back) (hk : o.sim.kind = .limit) (hl : o.ladder = .lineRange)
    (hew : o.marketType ≠ some "EACH_WAY") (hc : IsCents o.sim.sizeMatched) : simProfit (flip o) = - simProfit o := by
  cases hr : o.lineResult with
  | none =>
    unfold simProfit flip
    simp [hew, hk, hl, hr]
  | some lr =>
    have h1 := line_settlement o lr hk hl hew hr hc
    have h2 := line_settlement (flip o) lr hk hl hew hr hc
    rw [h1, h2]
    simp only [flip, hb]
    by_cases e : o.sim.avgPrice = lr
    · simp [e]
    · rcases lt_or_gt_of_ne e with l | g
      · have : ¬ lr < o.sim.avgPrice := not_lt.mpr (le_of_lt l)
        simp [e, l, this]
      · have : ¬ o.sim.avgPrice < lr := not_lt.mpr (le_of_lt g)
        simp [e, g, this]

def lineOrder (side : Side) (line result : Rat) : Order :=
  { id := 0, trade := 0, strategy := 0, market := 0, sel := 0, ladder := .lineRange,
    sim := { side := side, kind := .limit, price := line, size := 10, sizeMatched := 10, avgPrice := line },
    lineResult := some result }

example : simProfit (lineOrder .back (5/2) (5/2)) = 0 ∧ simProfit (lineOrder .lay (5/2) (5/2)) = 0 ∧
    simProfit (lineOrder .back (5/2) 2) = 10 ∧ simProfit (lineOrder .lay (5/2) 2) = -10 := by decide +kernel

/-- known finding F8b: fills struck at different lines are settled on their average line, not per
    fill: a lay of 5 at line 1.5 and 5 at line 3.5 with result 3 is settled as 10 at line 2.5 (+10);
    fill by fill the exchange pays +5 - 5 = 0 -/
theorem line_average_witness :
    simProfit { lineOrder .lay (5/2) 3 with sim := { (lineOrder .lay (5/2) 3).sim with matched := [⟨0, 3/2, 5⟩, ⟨0, 7/2, 5⟩] } } = 10 := by
  decide +kernel

end Flumine.C08
