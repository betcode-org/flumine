/-
  C14 — Simulation is deterministic, complete and chronological.
  Model: Flumine.Merge (event-group k-way merge, grouping, sequential processing, listener filter).
  Determinism of the model is trivial (it is a function); determinism of the code across processes,
  hash seeds and wall clocks is a runtime observation of the correspondence run (see evidence).
-/
import Flumine.Merge
import Flumine.Lemmas.ListAux
namespace Flumine.C14
open Flumine.Merge

def ofStream (i : Nat) (l : List Upd) : List Upd := l.filter fun u => u.stream = i

def flat (cs : List Cycle) : List Upd := cs.flatMap Cycle.items

theorem flat_append (a b : List Cycle) : flat (a ++ b) = flat a ++ flat b := List.flatMap_append ..
theorem flat_cons (c : Cycle) (a : List Cycle) : flat (c :: a) = c.items ++ flat a := List.flatMap_cons ..

theorem ofStream_cons (i : Nat) (u : Upd) (l : List Upd) :
    ofStream i (u :: l) = (if u.stream = i then [u] else []) ++ ofStream i l := by
  unfold ofStream
  rw [List.filter_cons]
  by_cases e : u.stream = i <;> simp [e]

theorem ofStream_nil_of_other (i : Nat) (l : List Upd) (k : Nat) (h : ∀ x ∈ l, x.stream = k) (hk : k ≠ i) : ofStream i l = [] :=
  List.filter_eq_nil_iff.mpr fun x hx => by simp only [decide_eq_true_eq]; rw [h x hx]; exact hk

theorem ofStream_flatMap {α} (key : α → Nat) (f : α → List Upd) {l : List α} {a : α} (ha : a ∈ l) (hnd : (l.map key).Nodup)
    (htag : ∀ x ∈ l, ∀ u ∈ f x, u.stream = key x) : ofStream (key a) (l.flatMap f) = f a := by
  unfold ofStream
  rw [List.filter_flatMap]
  exact (flatMap_eq_of_key key _ ha hnd fun x hx hne => ofStream_nil_of_other _ _ _ (htag x hx) hne).trans
    (List.filter_eq_self.mpr fun u hu => by simpa using htag a ha u hu)

structure WF (cs : List Cycle) : Prop where
  homog : ∀ c ∈ cs, ∀ x ∈ c.items, x.stream = c.1.stream
  nodup : (cs.map fun c => c.1.stream).Nodup

theorem WF.tail {c : Cycle} {cs : List Cycle} (w : WF (c :: cs)) : WF cs :=
  ⟨fun d hd => w.homog d (List.mem_cons_of_mem _ hd), (List.nodup_cons.mp w.nodup).2⟩

/-! ### the stable sort rearranges the cycles and puts their heads in publish-time order -/

theorem insCycle_perm (c : Cycle) (acc : List Cycle) : (insCycle c acc).Perm (c :: acc) := by
  induction acc with
  | nil => exact .refl _
  | cons x xs ih =>
    unfold insCycle
    split
    · exact (ih.cons x).trans (.swap c x xs)
    · exact .refl _

theorem sortCycles_perm (cs : List Cycle) : (sortCycles cs).Perm cs := by
  have : ∀ acc : List Cycle, (cs.foldl (fun a c => insCycle c a) acc).Perm (cs.reverse ++ acc) := by
    induction cs with
    | nil => exact fun _ => .refl _
    | cons c cs ih =>
      intro acc
      rw [List.reverse_cons, List.append_assoc]
      exact (ih _).trans ((insCycle_perm c acc).append_left _)
  exact (List.append_nil _ ▸ this []).trans (List.reverse_perm cs)

def HeadsSorted (cs : List Cycle) : Prop := cs.Pairwise fun a b => a.1.pt ≤ b.1.pt

theorem insCycle_heads (c : Cycle) (acc : List Cycle) (h : HeadsSorted acc) : HeadsSorted (insCycle c acc) := by
  induction acc with
  | nil => simp [insCycle, HeadsSorted]
  | cons x xs ih =>
    unfold insCycle
    have hx := List.pairwise_cons.mp h
    split
    · rename_i hle
      refine List.pairwise_cons.mpr ⟨fun y hy => ?_, ih hx.2⟩
      rcases List.mem_cons.mp ((insCycle_perm c xs).subset hy) with e | e
      · subst e; exact hle
      · exact hx.1 y e
    · rename_i hgt
      have hlt : c.1.pt ≤ x.1.pt := by omega
      refine List.pairwise_cons.mpr ⟨fun y hy => ?_, h⟩
      rcases List.mem_cons.mp hy with e | e
      · subst e; exact hlt
      · exact Int.le_trans hlt (hx.1 y e)

theorem sortCycles_heads (cs : List Cycle) : HeadsSorted (sortCycles cs) :=
  List.foldlRecOn cs _ (motive := HeadsSorted) List.Pairwise.nil fun acc h c _ => insCycle_heads c acc h

theorem wf_perm (cs cs' : List Cycle) (h : cs'.Perm cs) (w : WF cs) : WF cs' :=
  ⟨fun c hc => w.homog c (h.subset hc), (h.map _).nodup_iff.mpr w.nodup⟩

theorem ofStream_flat_perm (i : Nat) (cs cs' : List Cycle) (h : cs'.Perm cs) (w : WF cs) :
    ofStream i (flat cs') = ofStream i (flat cs) := by
  have w' := wf_perm cs cs' h w
  by_cases hc : ∃ c ∈ cs, c.1.stream = i
  · -- both select the items of the one cycle tagged i
    obtain ⟨c, hc, rfl⟩ := hc
    exact (ofStream_flatMap (fun c : Cycle => c.1.stream) Cycle.items (h.mem_iff.mpr hc) w'.nodup w'.homog).trans
      (ofStream_flatMap (fun c : Cycle => c.1.stream) Cycle.items hc w.nodup w.homog).symm
  · have nil : ∀ ds : List Cycle, WF ds → (∀ c ∈ ds, c.1.stream ≠ i) → ofStream i (flat ds) = [] := fun ds wd hd =>
      List.filter_eq_nil_iff.mpr fun x hx => by
        obtain ⟨c, hc', hxc⟩ := List.mem_flatMap.mp hx
        simp only [decide_eq_true_eq]; rw [wd.homog c hc' x hxc]; exact hd c hc'
    rw [nil cs w fun c hc' e => hc ⟨c, hc', e⟩, nil cs' w' fun c hc' e => hc ⟨c, h.mem_iff.mp hc', e⟩]

theorem size_perm (cs cs' : List Cycle) (h : cs'.Perm cs) : size cs' = size cs := (h.map _).sum_nat

/-! ### one step of the merge: the head `u` of the first cycle is delivered, its generator advanced -/

theorem flat_nextOf (rest : List Upd) : flat (nextOf rest) = rest := by
  cases rest <;> simp [nextOf, flat, Cycle.items]

theorem mem_nextOf {rest : List Upd} {c : Cycle} (h : c ∈ nextOf rest) : c.items = rest := by
  cases rest with
  | nil => cases h
  | cons v r => rw [List.mem_singleton.mp h]; rfl

theorem size_next (u : Upd) (rest : List Upd) (tl : List Cycle) : size (tl ++ nextOf rest) + 1 = size ((u, rest) :: tl) := by
  cases rest <;> simp [nextOf, size] <;> omega

theorem wf_next {u : Upd} {rest : List Upd} {tl : List Cycle} (w : WF ((u, rest) :: tl)) : WF (nextOf rest ++ tl) := by
  cases rest with
  | nil => exact w.tail
  | cons v r =>
    have hu : ∀ x ∈ u :: v :: r, x.stream = u.stream := w.homog (u, v :: r) List.mem_cons_self
    have hv : v.stream = u.stream := hu v (by simp)
    refine ⟨fun c hc x hx => ?_, ?_⟩
    · rcases List.mem_cons.mp hc with e | e
      · subst e; exact (hu x (List.mem_cons_of_mem _ hx)).trans hv.symm
      · exact w.tail.homog c e x hx
    · have := w.nodup
      simp only [nextOf, List.singleton_append, List.map_cons] at this ⊢
      rwa [hv]

/-- The merge by its three cases: out of fuel; no cycle left; the head `u` of the first cycle of the sorted list is
    delivered and the merge goes on with that cycle advanced and moved to the end. -/
theorem mergeFuel_ind {P : Nat → List Cycle → List Upd → Prop} (zero : ∀ cs, P 0 cs []) (done : ∀ n, P (n + 1) [] [])
    (step : ∀ n cs u rest tl, ((u, rest) :: tl).Perm cs → HeadsSorted ((u, rest) :: tl) →
      P n (tl ++ nextOf rest) (mergeFuel n (tl ++ nextOf rest)) → P (n + 1) cs (u :: mergeFuel n (tl ++ nextOf rest)))
    (n : Nat) (cs : List Cycle) : P n cs (mergeFuel n cs) := by
  induction n generalizing cs with
  | zero => exact zero cs
  | succ n ih =>
    unfold mergeFuel
    have hp := sortCycles_perm cs
    have hh := sortCycles_heads cs
    split
    · next h => rw [h] at hp; rw [← hp.nil_eq]; exact done n
    · next u rest tl h => rw [h] at hp hh; exact step n cs u rest tl hp hh (ih _)

/-! ### C14.1 / C14.2 every update exactly once, each stream's own order preserved -/

theorem merge_ofStream (i : Nat) (n : Nat) (cs : List Cycle) (w : WF cs) (hn : size cs ≤ n) :
    ofStream i (mergeFuel n cs) = ofStream i (flat cs) := by
  induction n, cs using mergeFuel_ind with
  | zero cs =>
    cases cs with
    | nil => rfl
    | cons _ _ => simp [size] at hn
  | done n => rfl
  | step n cs u rest tl hp _ ih =>
    have wn := wf_next (wf_perm cs _ hp w)
    have hsz := size_perm cs _ hp
    -- by induction the rest of the merge selects from `tl ++ nextOf rest`; moving the advanced cycle back to the front changes no selection
    rw [← ofStream_flat_perm i cs _ hp w, ofStream_cons,
      ih (wf_perm _ _ List.perm_append_comm wn) (by have := size_next u rest tl; omega),
      ofStream_flat_perm i _ _ List.perm_append_comm wn, flat_append, flat_nextOf, flat_cons]
    exact (ofStream_cons i u _).symm

theorem toCycles_flat (streams : List (List Upd)) : flat (toCycles streams) = streams.flatten := by
  induction streams with
  | nil => rfl
  | cons s ss ih =>
    cases s with
    | nil => simpa [toCycles] using ih
    | cons u r => simp only [toCycles, List.filterMap_cons, List.flatten_cons] at ih ⊢; rw [flat_cons, ih]; rfl

theorem mem_toCycles {streams : List (List Upd)} {c : Cycle} (h : c ∈ toCycles streams) : c.items ∈ streams := by
  obtain ⟨s, hs, hsc⟩ := List.mem_filterMap.mp h
  cases s with
  | nil => cases hsc
  | cons u r => cases hsc; exact hs

/-- streams of a group: stream s only holds updates tagged s, tags are distinct -/
def GroupOk (members : List Stream) : Prop :=
  (∀ s ∈ members, ∀ u ∈ s.updates, u.stream = s.id) ∧ (members.map (·.id)).Nodup

-- `Merge.Stream` by its full name: a bare `Stream` can also be read as core's class `Stream`, and the elaborator tries that reading as well
theorem toCycles_wf (members : List Merge.Stream) (h : GroupOk members) : WF (toCycles (members.map (·.updates))) := by
  induction members with
  | nil => exact ⟨(by intro c hc; cases hc), (by simp [toCycles])⟩
  | cons s ss ih =>
    have w := ih ⟨fun t ht => h.1 t (List.mem_cons_of_mem _ ht), (List.nodup_cons.mp h.2).2⟩
    cases hs : s.updates with
    | nil => simpa [toCycles, hs] using w
    | cons u r =>
      have hid : ∀ x ∈ u :: r, x.stream = s.id := fun x hx => h.1 s List.mem_cons_self x (by rw [hs]; exact hx)
      simp only [List.map_cons, toCycles, hs, List.filterMap_cons]
      refine ⟨fun c hc x hx => ?_, List.nodup_cons.mpr ⟨fun hm => ?_, w.nodup⟩⟩
      · rcases List.mem_cons.mp hc with e | e
        · subst e; rw [hid x hx, hid u List.mem_cons_self]
        · exact w.homog c e x hx
      · -- a later cycle with the tag of s comes from a later stream with the id of s
        obtain ⟨c, hc, hce⟩ := List.mem_map.mp hm
        obtain ⟨t, ht, hct⟩ := List.mem_map.mp (mem_toCycles hc)
        have : t.id = s.id := by
          rw [← h.1 t (List.mem_cons_of_mem _ ht) c.1 (by rw [hct]; exact List.mem_cons_self)]
          exact hce.trans (hid u List.mem_cons_self)
        exact (List.nodup_cons.mp h.2).1 (List.mem_map.mpr ⟨t, ht, this⟩)

/-- C14.1+2 for one merged event group -/
theorem mergeGroup_stream (members : List Merge.Stream) (h : GroupOk members) (s : Merge.Stream) (hs : s ∈ members) :
    ofStream s.id (mergeGroup (members.map (·.updates))) = s.updates := by
  unfold mergeGroup
  rw [merge_ofStream s.id _ _ (toCycles_wf members h) (Nat.le_refl _), toCycles_flat, ← List.flatMap_def]
  exact ofStream_flatMap (·.id) (·.updates) hs h.2 h.1

/-! ### C14.3 chronological order -/

def Sorted (l : List Upd) : Prop := l.Pairwise fun a b => a.pt ≤ b.pt

theorem mem_mergeFuel (n : Nat) (cs : List Cycle) (x : Upd) (h : x ∈ mergeFuel n cs) : x ∈ flat cs := by
  induction n, cs using mergeFuel_ind with
  | zero cs => cases h
  | done n => cases h
  | step n cs u rest tl hp _ ih =>
    refine (hp.flatMap_right Cycle.items).mem_iff.mp ?_
    change x ∈ flat ((u, rest) :: tl)
    rw [flat_cons]
    rcases List.mem_cons.mp h with e | e
    · exact e ▸ List.mem_append_left _ List.mem_cons_self
    · have := ih e
      rw [flat_append, flat_nextOf] at this
      exact (List.mem_append.mp this).elim (List.mem_append_right _) fun m => List.mem_append_left _ (List.mem_cons_of_mem _ m)

/-- if every stream is in publish-time order, so is the merged sequence -/
theorem merge_sorted (n : Nat) (cs : List Cycle) (h : ∀ c ∈ cs, Sorted (Cycle.items c)) : Sorted (mergeFuel n cs) := by
  induction n, cs using mergeFuel_ind with
  | zero cs => exact List.Pairwise.nil
  | done n => exact List.Pairwise.nil
  | step n cs u rest tl hp hh ih =>
    have hsorted : ∀ c ∈ (u, rest) :: tl, Sorted (Cycle.items c) := fun c hc => h c (hp.subset hc)
    have hur := List.pairwise_cons.mp (hsorted (u, rest) List.mem_cons_self)
    have hheads := List.pairwise_cons.mp hh
    refine List.pairwise_cons.mpr ⟨fun y hy => ?_, ih fun c hc => ?_⟩
    · -- every update still to come is not earlier than u
      have hy := mem_mergeFuel n _ y hy
      rw [flat_append, flat_nextOf] at hy
      rcases List.mem_append.mp hy with m | m
      · obtain ⟨c, hc, hyc⟩ := List.mem_flatMap.mp m
        rcases List.mem_cons.mp hyc with e | e
        · exact e ▸ hheads.1 c hc
        · exact Int.le_trans (hheads.1 c hc) ((List.pairwise_cons.mp (hsorted c (List.mem_cons_of_mem _ hc))).1 y e)
      · exact hur.1 y m
    · rcases List.mem_append.mp hc with m | m
      · exact hsorted c (List.mem_cons_of_mem _ m)
      · rw [mem_nextOf m]; exact hur.2

theorem mergeGroup_sorted (streams : List (List Upd)) (h : ∀ s ∈ streams, Sorted s) : Sorted (mergeGroup streams) :=
  merge_sorted _ _ fun _ hc => h _ (mem_toCycles hc)

/-! ### the whole run: every stream's updates exactly once and in order, whatever the grouping -/

theorem dedupFirst_mem (l : List (Option Nat)) (x : Option Nat) : x ∈ dedupFirst l ↔ x ∈ l := by
  induction l with
  | nil => simp [dedupFirst]
  | cons y ys ih =>
    simp only [dedupFirst, List.mem_cons, List.mem_filter, ih]
    by_cases e : x = y <;> simp [e]

theorem dedupFirst_nodup (l : List (Option Nat)) : (dedupFirst l).Nodup := by
  induction l with
  | nil => simp [dedupFirst]
  | cons y ys ih =>
    simp only [dedupFirst, List.nodup_cons, List.mem_filter]
    exact ⟨by simp, ih.filter _⟩

theorem processGroup_mem (k : Option Nat) (members : List Merge.Stream) (x : Upd) (h : x ∈ processGroup k members) :
    ∃ s ∈ members, x ∈ s.updates := by
  unfold processGroup at h
  split at h
  · obtain ⟨c, hc, hxc⟩ := List.mem_flatMap.mp (mem_mergeFuel _ _ x h)
    obtain ⟨s, hs, hsc⟩ := List.mem_map.mp (mem_toCycles hc)
    exact ⟨s, hs, hsc ▸ hxc⟩
  · exact List.mem_flatMap.mp h

theorem processGroup_stream (k : Option Nat) (members : List Merge.Stream) (hg : GroupOk members) (s : Merge.Stream) (hs : s ∈ members) :
    ofStream s.id (processGroup k members) = s.updates := by
  unfold processGroup
  split
  · exact mergeGroup_stream members hg s hs
  · exact ofStream_flatMap (·.id) (·.updates) hs hg.2 hg.1

theorem groupOk_filter (ss : List Merge.Stream) (h : GroupOk ss) (p : Merge.Stream → Bool) : GroupOk (ss.filter p) :=
  ⟨fun s hs => h.1 s (List.mem_filter.mp hs).1, (h.2.sublist ((List.filter_sublist).map _))⟩

/-- C14.1+2 for the whole run: with event processing or without, whatever the event groups, every
    stream's (filtered) updates are delivered exactly once and in the stream's own order -/
theorem runSeq_stream (ss : List Stream) (h : GroupOk ss) (s : Stream) (hs : s ∈ ss) :
    ofStream s.id (runSeq ss) = s.updates := by
  unfold runSeq ofStream
  have hk : s.group ∈ groupKeys ss := (dedupFirst_mem _ _).mpr (List.mem_map.mpr ⟨s, hs, rfl⟩)
  -- only the group of s holds updates of s: a stream with the id of s is s
  rw [List.filter_flatMap, flatMap_eq_of_key id _ hk (by rw [List.map_id]; exact dedupFirst_nodup _) fun k _ hne =>
    List.filter_eq_nil_iff.mpr fun x hx => by
      obtain ⟨t, ht, hxt⟩ := processGroup_mem _ _ x hx
      obtain ⟨ht1, ht2⟩ := List.mem_filter.mp ht
      simp only [decide_eq_true_eq] at ht2 ⊢
      rw [h.1 t ht1 x hxt]
      exact fun eid => hne (by rw [← ht2, eq_of_key_eq (·.id) h.2 ht1 hs eid])]
  exact processGroup_stream _ _ (groupOk_filter ss h _) s (List.mem_filter.mpr ⟨hs, by simp⟩)

/-! ### C14.4 the listener filter -/

/-- closed / suspended updates always pass -/
theorem not_open_passes (cfg : ListenerCfg) (st : FState) (u : RawUpd) (h : u.status ≠ .open_) : (filterStep cfg st u).2 = true := by
  unfold filterStep; simp [h]

theorem no_filter_passes (st : FState) (u : RawUpd) : (filterStep {} st u).2 = true := by
  unfold filterStep; simp

/-- `inplay=True`: an OPEN update passes iff the market is in play (and, with max_inplay_seconds, not too long) -/
theorem inplay_only (st : FState) (u : RawUpd) (h : u.status = .open_) :
    (filterStep { inplay := some true } st u).2 = u.inPlay := by
  unfold filterStep; simp [h]

/-- `seconds_to_start = s`: an OPEN update passes iff it is at most s seconds before the off -/
theorem seconds_to_start_exact (s : Nat) (hs : s ≠ 0) (st : FState) (u : RawUpd) (h : u.status = .open_) :
    (filterStep { secondsToStart := some s } st u).2 = decide (u.marketTime - u.pt ≤ (s : Int) * 1000) := by
  unfold filterStep; simp [h, hs]

/-- what is yielded is a sub-sequence of the file: nothing is invented, duplicated or reordered -/
theorem filterRun_sublist (cfg : ListenerCfg) (st : FState) (us : List RawUpd) : (filterRun cfg st us).Sublist us := by
  induction us generalizing st with
  | nil => exact List.Sublist.slnil
  | cons u us ih =>
    unfold filterRun
    simp only
    split
    · exact (ih _).cons_cons u
    · exact (ih _).cons u

/-- without listener arguments every update passes -/
theorem filterRun_all (st : FState) (us : List RawUpd) : filterRun {} st us = us := by
  induction us generalizing st with
  | nil => rfl
  | cons u us ih =>
    unfold filterRun
    simp only [no_filter_passes, if_true, ih]

/-! ### non-vacuity -/

example : mergeGroup [[⟨1, 10, 0⟩, ⟨1, 30, 1⟩], [⟨2, 10, 0⟩, ⟨2, 20, 1⟩], []] =
    [⟨1, 10, 0⟩, ⟨2, 10, 0⟩, ⟨2, 20, 1⟩, ⟨1, 30, 1⟩] := by decide +kernel

end Flumine.C14
