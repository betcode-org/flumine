/-
  C02 — Refused requests change nothing; accepted requests are sent exactly once.
  Model: Txn.lean (txnPlace / txnCancel / txnUpdate / txnReplace, validateControls, chunks,
  groupByVersion, packsOf, createPackages, txnExecute, txnExit).
-/
import Flumine.Txn
import Flumine.Lemmas.Packs
import Flumine.Lemmas.Calm
import Flumine.Lemmas.Pending
namespace Flumine.C02
open Flumine.World Flumine.Packs

/-! ### chunks: `utils.chunks(l, n)` (proofs in Lemmas/Packs.lean) -/

theorem chunks_bound {α} (l : List α) (n : Nat) (hn : 0 < n) : ∀ c ∈ chunks l n, c.length ≤ n ∧ c ≠ [] := Packs.chunks_bound l n hn

/-! ### packages -/

theorem limits : packLimit .place = 200 ∧ packLimit .cancel = 60 ∧ packLimit .update = 60 ∧ packLimit .replace = 60 := by decide

theorem packLimit_pos (k : PackKind) : 0 < packLimit k := Packs.packLimit_pos k

/-- C02.4b every package holds at most the exchange's per-call limit, is not empty, and only orders
    that were requested with the package's market version -/
theorem packs_sound (pend : List (Nat × Option Int)) (kind : PackKind) :
    ∀ p ∈ packsOf pend kind, p.2.length ≤ packLimit kind ∧ p.2 ≠ [] ∧ ∀ o ∈ p.2, (o, p.1) ∈ pend := Packs.packs_sound pend kind

/-- C02.4c exactly once, in request order: for every market version, the packages of that version,
    read in the order they are sent, hold exactly the requests made with that version, in order -/
theorem packs_complete (pend : List (Nat × Option Int)) (kind : PackKind) (v : Option Int) :
    ((packsOf pend kind).filter fun p => p.1 = v).flatMap (·.2) = (pend.filter fun ov => ov.2 = v).map (·.1) := by
  obtain ⟨hnd, hspec⟩ := groupByVersion_spec pend
  rw [← hspec v]
  unfold packsOf getGroup
  generalize groupByVersion pend = gs at hnd
  -- the chunks of a group carry its version: the filter keeps all of them or none
  have hch (g : Option Int × List Nat) :
      (((chunks g.2 (packLimit kind)).map fun ch => (g.1, ch)).filter fun p => p.1 = v).flatMap (·.2) = if g.1 = v then g.2 else [] := by
    have htag : ∀ p ∈ (chunks g.2 (packLimit kind)).map fun ch => (g.1, ch), p.1 = g.1 := fun p hp => by
      obtain ⟨ch, _, rfl⟩ := List.mem_map.mp hp
      rfl
    split
    · rename_i e
      rw [List.filter_eq_self.mpr fun p hp => decide_eq_true ((htag p hp).trans e), tagged_chunks_flatMap]
    · rename_i e
      rw [List.filter_eq_nil_iff.mpr fun p hp h => e ((htag p hp).symm.trans (of_decide_eq_true h))]
      rfl
  rw [List.filter_flatMap, List.flatMap_assoc, flatMap_congr fun g _ => hch g]
  -- the versions of the groups are distinct: only the group of `v`, if there is one, contributes
  rcases find?_key Prod.fst gs v with ⟨g, hg, rfl, hf⟩ | ⟨hv, hf⟩ <;> rw [hf]
  · rw [flatMap_eq_of_key Prod.fst _ hg hnd fun x _ hne => if_neg hne, if_pos rfl]
    rfl
  · exact List.flatMap_eq_nil_iff.mpr fun g hg => if_neg fun (e : g.1 = v) => hv (e ▸ List.mem_map_of_mem hg)

/-- C02.4d exactly once, as multisets: between them the packages of a pending list hold exactly the requested
    orders, each as often as it was requested (whatever the market versions and the chunking) -/
theorem packs_exactly_once (pend : List (Nat × Option Int)) (kind : PackKind) :
    ((packsOf pend kind).flatMap (·.2)).Perm (pend.map (·.1)) := Packs.packs_perm pend kind

/-! ### the transaction: nothing is left queued, accepted requests are queued once -/

theorem execute_clears (w : World) (t : Txn) :
    (w.txnExecute t).2.pPlace = [] ∧ (w.txnExecute t).2.pCancel = [] ∧ (w.txnExecute t).2.pUpdate = [] ∧ (w.txnExecute t).2.pReplace = [] := by
  unfold txnExecute; exact ⟨rfl, rfl, rfl, rfl⟩

/-- `Transaction._pending_orders` is set whenever a request is waiting: `__exit__` tests only the flag -/
def Flagged (t : Txn) : Prop :=
  (t.pPlace ≠ [] ∨ t.pCancel ≠ [] ∨ t.pUpdate ≠ [] ∨ t.pReplace ≠ []) → t.pendingOrders = true

theorem flagged_new (m c : Nat) : Flagged { market := m, client := c } := by
  intro h; simp at h

theorem flagged_execute (w : World) (t : Txn) : Flagged (w.txnExecute t).2 := by
  intro h
  obtain ⟨a, b, c, d⟩ := execute_clears w t
  rw [a, b, c, d] at h; simp at h

theorem flagged_txnRequest (w : World) (t : Txn) (oid : Nat) (f : Bool) (k : PackKind) (op : World → Except ReqErr World)
    (file : Txn → Txn) (hfile : (file t).pendingOrders = true) (h : Flagged t) : Flagged (w.txnRequest t oid f k op file).2.1 :=
  txnRequest_cases w t oid f k op file (fun _ t' => Flagged t') h fun _ _ => ⟨h, fun _ _ _ => hfile⟩

theorem flagged_cancel (w : World) (t : Txn) (oid : Nat) (red : Option Rat) (f : Bool) (h : Flagged t) :
    Flagged (w.txnCancel t oid red f).2.1 := by
  rw [txnCancel_eq]; exact flagged_txnRequest w t oid f _ _ _ rfl h

theorem flagged_update (w : World) (t : Txn) (oid : Nat) (p : String) (f : Bool) (h : Flagged t) :
    Flagged (w.txnUpdate t oid p f).2.1 := by
  rw [txnUpdate_eq]; exact flagged_txnRequest w t oid f _ _ _ rfl h

theorem flagged_replace (w : World) (t : Txn) (oid : Nat) (p : Rat) (v : Option Int) (f : Bool) (h : Flagged t) :
    Flagged (w.txnReplace t oid p v f).2.1 := by
  rw [txnReplace_eq]; exact flagged_txnRequest w t oid f _ _ _ rfl h

/-- an accepted cancel is filed exactly once; anything else files nothing -/
theorem cancel_filed_once (w : World) (t : Txn) (oid : Nat) (red : Option Rat) (f : Bool) :
    ((w.txnCancel t oid red f).2.2 = .accepted ∧ (w.txnCancel t oid red f).2.1.pCancel = t.pCancel ++ [(oid, none)]) ∨
    ((w.txnCancel t oid red f).2.2 ≠ .accepted ∧ (w.txnCancel t oid red f).2.1 = t) := by
  rw [txnCancel_eq]
  rcases txnRequest_outcome w t oid f .cancel (·.orderCancel oid red) _ with e | ⟨_, _, _, e⟩ | ⟨_, ⟨_, _, e⟩ | ⟨_, _, e⟩⟩ <;>
    rw [e]
  · exact .inr ⟨nofun, rfl⟩
  · exact .inr ⟨nofun, rfl⟩
  · exact .inr ⟨nofun, rfl⟩
  · exact .inl ⟨rfl, rfl⟩

/-- leaving the transaction sends everything that is waiting -/
theorem exit_sends_all (w : World) (t : Txn) (h : Flagged t)
    (hw : t.pPlace ≠ [] ∨ t.pCancel ≠ [] ∨ t.pUpdate ≠ [] ∨ t.pReplace ≠ []) :
    w.txnExit t = (w.txnExecute t).1 := by
  unfold txnExit; rw [if_pos (h hw)]

/-- the queue grows by exactly one package per (version, chunk) pair, of the matching kind, for the
    transaction's market and client -/
theorem createPackages_queue (w : World) (t : Txn) (pend : List (Nat × Option Int)) (kind : PackKind) :
    ((w.createPackages t pend kind).queue.drop w.queue.length).map (fun p => (p.kind, p.market, p.client, p.marketVersion, p.orders)) =
      (packsOf pend kind).map fun vc => (kind, t.market, t.client, vc.1, vc.2) := by
  rw [createPackages_eq]
  show ((w.queue ++ _).drop w.queue.length).map _ = _
  rw [List.drop_left]
  have := congrArg (List.map fun x : PackKind × Nat × Nat × Option Int × List Nat × Time × Rat => (x.1, x.2.1, x.2.2.1, x.2.2.2.1, x.2.2.2.2.1))
    (newPackages_map kind t (delayOf w.cfg kind (((w.market! t.market).book).getD {}).betDelay)
      (((w.market! t.market).book).getD {}).betDelay w.clock w.nextPackage (packsOf pend kind))
  rwa [List.map_map, List.map_map] at this

/-! ### refusals -/

/-- a request rejected by the order's own guard changes no order, trade, market or queue entry and
    files nothing -/
theorem cancel_error_changes_nothing (w : World) (t : Txn) (oid : Nat) (red : Option Rat) (f : Bool) (e : ReqErr)
    (h : (w.txnCancel t oid red f).2.2 = .error e) :
    (w.txnCancel t oid red f).1.orders = w.orders ∧ (w.txnCancel t oid red f).1.trades = w.trades ∧
    (w.txnCancel t oid red f).1.markets = w.markets ∧ (w.txnCancel t oid red f).1.queue = w.queue ∧
    (w.txnCancel t oid red f).2.1 = t := by
  rw [txnCancel_eq] at h ⊢
  rcases txnRequest_outcome w t oid f .cancel (·.orderCancel oid red) _ with e | ⟨_, _, _, e⟩ | ⟨hv, ⟨_, _, e⟩ | ⟨_, _, e⟩⟩ <;>
    rw [e] at h ⊢
  · exact ⟨rfl, rfl, rfl, rfl, rfl⟩
  · cases h
  · -- the guard was asked in the world the controls left: they passed, so they wrote no order, trade, market or package
    have hc : Eff [.ctx, .client] w (w.afterControls t oid f .cancel) := by
      unfold afterControls
      cases f
      · exact eff_validateControls_pass w oid t.client .cancel (hv rfl)
      · exact .refl w
    exact ⟨hc.orders, hc.trades, hc.markets, hc.queue, rfl⟩
  · cases h

/-- `force=True` skips the controls and nothing else -/
theorem force_skips_only_controls (w : World) (t : Txn) (oid : Nat) (red : Option Rat)
    (h : w.validateControls oid t.client .cancel = (w, none)) :
    w.txnCancel t oid red false = w.txnCancel t oid red true := by
  unfold txnCancel
  simp only [Bool.not_false, if_true, Bool.not_true, Bool.false_eq_true, if_false, h]

/-- ... also for placements: a FORCED placement of an order that has been placed before - it is in the blotter of the
    transaction's market, or it is complete (the replacement order of a refused re-placement, fix F24) - is refused like an
    unforced one; nothing is filed in the transaction, no status changes; all that happens is that `order.client` has been
    overwritten with the transaction's client before the test (known finding F17) -/
theorem forced_place_of_a_placed_order_refused (w : World) (t : Txn) (oid : Nat) (v : Option Int) (ex : Bool)
    (h : oid ∈ (w.market! t.market).blotter ∨ (w.order! oid).status = some .executionComplete) :
    w.txnPlace t oid v ex true = (w.modifyOrder oid fun o => { o with client := some t.client }, t, .error .alreadyPlaced) := by
  have c1 : Calm w (w.modifyOrder oid fun o => { o with client := some t.client }) := (eff_modifyOrder w oid _).calm
  have hc : w.placeControls t oid ex true = (w.modifyOrder oid fun o => { o with client := some t.client }, none) := by
    unfold placeControls
    rw [Bool.not_true, Bool.and_false]
    rfl
  rw [txnPlace_eq, hc]
  dsimp only
  rw [if_pos]
  rw [(c1.market t.market).1, c1.status, Bool.or_eq_true]
  exact h.imp List.contains_iff_mem.mpr fun h => by rw [h]; rfl

/-! ### non-vacuity -/

example : packsOf [(1, some 5), (2, none), (3, some 5)] .cancel = [(some 5, [1, 3]), (none, [2])] := by decide +kernel
example : (chunks (List.range 130) 60).map List.length = [60, 60, 10] := by decide +kernel

/-! ### C02.5 `Transaction.execute()` as a whole -/

theorem step_queueIds (w : World) (t : Txn) (pend : List (Nat × Option Int)) (k : PackKind) :
    Fl.queueIds (if pend.isEmpty then w else w.createPackages t pend k) = Fl.queueIds w ++ (packsOf pend k).flatMap (·.2) := by
  split
  · rename_i he
    rw [List.isEmpty_iff.mp he]
    exact (List.append_nil _).symm
  · rw [createPackages_eq]
    unfold Fl.queueIds
    show (w.queue ++ _).flatMap _ = _
    rw [List.flatMap_append]
    congr 1
    generalize w.nextPackage = n
    induction packsOf pend k generalizing n with
    | nil => rfl
    | cons vc ps ih => rw [newPackages, List.flatMap_cons, List.flatMap_cons, ih]

/-- `Transaction.execute()`: the handler queue grows by packages that hold, between them, exactly the requests
    pending in the transaction - every accepted request once, nothing else - and what was queued before stays
    in front, untouched -/
theorem execute_queues_each_request_once (w : World) (t : Txn) :
    ∃ N, Fl.queueIds (w.txnExecute t).1 = Fl.queueIds w ++ N ∧ N.Perm (Fl.txnIds t) := by
  refine ⟨(packsOf t.pPlace .place).flatMap (·.2) ++ ((packsOf t.pCancel .cancel).flatMap (·.2) ++
    ((packsOf t.pUpdate .update).flatMap (·.2) ++ (packsOf t.pReplace .replace).flatMap (·.2))), ?_, ?_⟩
  · unfold txnExecute
    simp only
    rw [step_queueIds, step_queueIds, step_queueIds, step_queueIds]
    simp [List.append_assoc]
  · unfold Fl.txnIds
    rw [List.map_append, List.map_append, List.map_append, List.append_assoc, List.append_assoc]
    exact (packs_exactly_once t.pPlace .place).append ((packs_exactly_once t.pCancel .cancel).append
      ((packs_exactly_once t.pUpdate .update).append (packs_exactly_once t.pReplace .replace)))

end Flumine.C02
