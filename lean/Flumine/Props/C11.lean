/-
  C11 — Order-stream reconciliation converges on the exchange's view.
  Model: Flumine.Live.processCurrent (process_current_order), the place response handler, and
  Flumine.Ref.processCurrent (lookup by reference / adoption of unknown orders, proved in C19).
-/
import Flumine.Live
import Flumine.Props.C19
namespace Flumine.C11
open Flumine.Live

def snapComplete (s : Snap) : Bool := s.status = .executionComplete || s.status = .expired

theorem setStatus_fields (o : LOrder) (st : Status) :
    (setStatus o st).cur = o.cur ∧ (setStatus o st).betId = o.betId ∧ (setStatus o st).async = o.async := ⟨rfl, rfl, rfl⟩

theorem followStatus_cases (o : LOrder) (s : Snap) :
    followStatus o s = o ∨ (s.status = .executable ∧ followStatus o s = setStatus o .executable) ∨
    followStatus o s = setStatus o .executionComplete := by
  let Q : LOrder → Prop := fun x => x = o ∨ (s.status = .executable ∧ x = setStatus o .executable) ∨ x = setStatus o .executionComplete
  have keep : Q o := .inl rfl
  have done : Q (executionComplete o) := .inr (.inr rfl)
  have orKeep : Q (if s.status = .executionComplete ∨ s.status = .expired then executionComplete o else o) :=
    iteInduction (motive := Q) (fun _ => done) fun _ => keep
  exact iteInduction (motive := Q)
    (fun _ => iteInduction (motive := Q) (fun e => iteInduction (motive := Q) (fun _ => keep) fun _ => .inr (.inl ⟨e, rfl⟩)) fun _ => orKeep)
    fun _ => iteInduction (motive := Q) (fun _ => orKeep) fun _ => keep

theorem followStatus_fields (o : LOrder) (s : Snap) : (followStatus o s).cur = o.cur ∧ (followStatus o s).betId = o.betId := by
  rcases followStatus_cases o s with h | ⟨_, h⟩ | h <;> rw [h] <;> exact ⟨rfl, rfl⟩

theorem followStatus_idle (o : LOrder) (s : Snap) (h : o.status ≠ some .pending ∧ o.status ≠ some .executable) :
    followStatus o s = o := by
  unfold followStatus
  rw [if_neg fun h' => h.1 h'.2, if_neg h.2]

theorem followStatus_executable (o : LOrder) (s : Snap) (h : o.status = some .executable) :
    followStatus o s = if s.status = .executionComplete ∨ s.status = .expired then executionComplete o else o := by
  unfold followStatus
  rw [if_neg fun h' => absurd (h.symm.trans h'.2) (by decide), if_pos h]

theorem followStatus_pending (o : LOrder) (s : Snap) (hb : o.betId.isSome = true) (h : o.status = some .pending) :
    followStatus o s = if s.status = .executable then executable o
      else if s.status = .executionComplete ∨ s.status = .expired then executionComplete o else o := by
  unfold followStatus
  rw [if_pos ⟨hb, h⟩]

theorem snapshot_stored (o : LOrder) (s : Snap) : (processCurrent o s).cur = some s := by
  unfold processCurrent; rw [(followStatus_fields _ s).1]; rfl

/-- the snapshot is stored as the order's current order, so `size_remaining` is read from it: the exchange's figure -/
theorem sizes_agree (o : LOrder) (s : Snap) : sizeRemaining (processCurrent o s) = s.sizeRemaining := by
  unfold sizeRemaining; rw [snapshot_stored]

/-- bet id: an asynchronous order without bet id picks it up from the stream; otherwise it is kept -/
theorem betid_pickup (o : LOrder) (s : Snap) :
    (processCurrent o s).betId = (if o.async ∧ o.betId.isNone then some s.betId else o.betId) := by
  unfold processCurrent; rw [(followStatus_fields _ s).2]; rfl

/-- C11 (agreement): a snapshot processed while nothing is outstanding - the order is acknowledged and
    resting (EXECUTABLE), or pending with its bet id known (or asynchronous: the id comes with the
    snapshot) - makes the order complete exactly when the exchange says so -/
theorem completeness_agrees (o : LOrder) (s : Snap) (hs : s.status = .executable ∨ s.status = .executionComplete ∨ s.status = .expired)
    (ho : (o.status = some .executable ∧ o.complete = false) ∨ (o.status = some .pending ∧ o.complete = false ∧ (o.betId.isSome ∨ o.async = true))) :
    (processCurrent o s).complete = snapComplete s := by
  unfold processCurrent
  have hd : snapComplete s = decide (s.status = .executionComplete ∨ s.status = .expired) := by simp [snapComplete]
  rw [hd]
  rcases ho with ⟨h1, h2⟩ | ⟨h1, h2, h3⟩
  · rw [followStatus_executable (pickup o s) s h1]
    by_cases e : s.status = .executionComplete ∨ s.status = .expired
    · rw [if_pos e, decide_eq_true e]; rfl
    · rw [if_neg e, decide_eq_false e]; exact h2
  · -- the bet id is known once the snapshot is picked up
    have hb : (pickup o s).betId.isSome = true := by
      unfold pickup; dsimp only
      cases hbb : o.betId with
      | some b => simp
      | none => rw [hbb] at h3; simpa using h3
    rw [followStatus_pending (pickup o s) s hb h1]
    rcases hs with e | e | e
    · rw [if_pos e, decide_eq_false (by simp [e])]
      unfold executable; rw [if_neg (by rw [show (pickup o s).complete = o.complete from rfl, h2]; simp)]; rfl
    · rw [if_neg (by simp [e]), if_pos (.inl e), decide_eq_true (.inl e)]; rfl
    · rw [if_neg (by simp [e]), if_pos (.inr e), decide_eq_true (.inr e)]; rfl

/-- anything in flight (cancelling / updating / replacing) waits for its response -/
theorem in_flight_waits (o : LOrder) (s : Snap)
    (h : o.status = some .cancelling ∨ o.status = some .updating ∨ o.status = some .replacing) :
    (processCurrent o s).status = o.status ∧ (processCurrent o s).log = o.log := by
  unfold processCurrent
  have hst : (pickup o s).status = o.status := rfl
  rw [followStatus_idle (pickup o s) s (by rcases h with e | e | e <;> rw [hst, e] <;> decide)]
  exact ⟨rfl, rfl⟩

/-- a stale snapshot cannot bring a complete order back -/
theorem stale_snapshot_keeps_complete (o : LOrder) (s : Snap) (h : o.status = some .executionComplete) (hc : o.complete = true) :
    (processCurrent o s).complete = true ∧ (processCurrent o s).status = some .executionComplete := by
  unfold processCurrent
  have hst : (pickup o s).status = some .executionComplete := h
  rw [followStatus_idle (pickup o s) s (by rw [hst]; decide)]
  exact ⟨hc, h⟩

theorem pickup_idem (o : LOrder) (s : Snap) : pickup (pickup o s) s = pickup o s := by
  unfold pickup
  by_cases h : o.async = true ∧ o.betId.isNone = true
  · simp [h]
  · simp only [if_neg h]

/-- `pickup` does not read what the status part writes -/
theorem pickup_again (o : LOrder) (s : Snap) : pickup (followStatus (pickup o s) s) s = followStatus (pickup o s) s := by
  rcases followStatus_cases (pickup o s) s with h | ⟨_, h⟩ | h <;> rw [h]
  · exact pickup_idem o s
  · exact congrArg (setStatus · .executable) (pickup_idem o s)
  · exact congrArg (setStatus · .executionComplete) (pickup_idem o s)

/-- duplicated snapshots are harmless: processing the same snapshot again changes nothing (for an order
    whose `complete` flag matches its status) -/
theorem duplicate_snapshot (o : LOrder) (s : Snap) (hc : o.complete = true → o.status ≠ some .pending ∧ o.status ≠ some .executable) :
    processCurrent (processCurrent o s) s = processCurrent o s := by
  unfold processCurrent
  rw [pickup_again]
  generalize pickup o s = p
  -- what the first pass left is not moved by the second: nothing; EXECUTABLE under an EXECUTABLE snapshot; a completed order
  rcases followStatus_cases p s with h | ⟨e, h⟩ | h <;> rw [h]
  · exact h
  · rw [followStatus_executable _ s rfl, if_neg (by simp [e])]
  · exact followStatus_idle _ s (by simp [setStatus])

/-- known finding F14 (witness): a synchronous bet that is matched at once - the stream reports it
    complete BEFORE the place response arrives.  The snapshot is ignored for the status (no bet id yet),
    the response then sets EXECUTABLE: nothing is outstanding, the latest snapshot has been processed,
    and the order is live locally while the exchange has it complete. -/
def fresh : LOrder := { id := 0, status := some .pending, log := [.pending] }
def doneSnap : Snap := { betId := 9, status := .executionComplete, sizeMatched := 2, sizeRemaining := 0 }

theorem snapshot_before_response_witness :
    (placeReport (processCurrent fresh doneSnap) { status := .success, orderStatus := some .executionComplete, betId := some 9 }).complete = false ∧
    snapComplete doneSnap = true := by decide +kernel

/-- in the other order (response first, then the snapshot) the two agree -/
theorem response_then_snapshot_agrees :
    (processCurrent (placeReport fresh { status := .success, orderStatus := some .executionComplete, betId := some 9 }) doneSnap).complete = true := by
  decide +kernel

/-! ### adoption of unknown orders (restart): the adopted order carries the exchange's terms, whatever its type -/

/-- a LIMIT bet is adopted as a limit order with the reported price, size and persistence -/
theorem adopted_limit (c : Live.CurrentTerms) (h : c.kind = .limit) :
    Live.adoptType c = { kind := .limit, price := some c.price, size := some c.size, persistence := some c.persistence } := by
  unfold Live.adoptType; rw [h]

/-- a LIMIT_ON_CLOSE bet is adopted with the reported starting-price liability as its liability and the reported price as its
    limit (the two are different fields of the snapshot: `bspLiability` and `priceSize.price`) -/
theorem adopted_limit_on_close (c : Live.CurrentTerms) (h : c.kind = .limitOnClose) :
    (Live.adoptType c).kind = .limitOnClose ∧ (Live.adoptType c).liability = some c.bspLiability ∧ (Live.adoptType c).price = some c.price := by
  unfold Live.adoptType; rw [h]; exact ⟨rfl, rfl, rfl⟩

/-- a MARKET_ON_CLOSE bet is adopted with the reported liability and no price -/
theorem adopted_market_on_close (c : Live.CurrentTerms) (h : c.kind = .marketOnClose) :
    (Live.adoptType c).kind = .marketOnClose ∧ (Live.adoptType c).liability = some c.bspLiability ∧ (Live.adoptType c).price = none := by
  unfold Live.adoptType; rw [h]; exact ⟨rfl, rfl, rfl⟩

/-- the type is never changed by adoption, and the adopted terms determine the reported ones that matter for the type: two
    snapshots adopted to the same order type agree on kind, and on price / size / liability where the type has them -/
theorem adoption_keeps_kind (c : Live.CurrentTerms) : (Live.adoptType c).kind = c.kind := by
  unfold Live.adoptType; cases c.kind <;> rfl

example : Live.adoptType { kind := .limitOnClose, price := 3, bspLiability := 20 } =
    { kind := .limitOnClose, liability := some 20, price := some 3 } := by decide

/-! ### adoption of unknown orders (restart): proved on the reference model in C19 -/

theorem adoption (i : Ref.Inst) (market : Nat) (s : Ref.Strat) (sep id : List Char)
    (hmem : s ∈ i.strategies) (hd : ∀ a ∈ i.strategies, ∀ b ∈ i.strategies, a.hash = b.hash → a = b)
    (hh : s.hash.length = Ref.H) (hs : sep.length = 1) (hun : Ref.getOrder i market id = none) :
    (Ref.processCurrent i market (Ref.customerOrderRef s.hash sep id)).2 = .created { market := market, id := id, strat := s.idx } ∧
    (Ref.processCurrent (Ref.processCurrent i market (Ref.customerOrderRef s.hash sep id)).1 market (Ref.customerOrderRef s.hash sep id)).2 =
      .existing { market := market, id := id, strat := s.idx } := by
  have h1 := C19.attribution_created i market s sep id hmem hd hh hs hun
  exact ⟨h1, C19.second_update_finds_it i market _ _ h1⟩

end Flumine.C11
