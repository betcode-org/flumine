/-
  C15 — Blotter views are coherent with the orders placed.
  Model: World.blotterAdd / blotterComplete / strategyOrders, Txn.txnPlace, SimLoop.processSimulatedOrders.
  In the model the views are *computed* as filters of the primary insertion-ordered list, so the
  partition property is what the correspondence check and the oracle compare the real caches against.
-/
import Flumine.Lemmas.Final
import Flumine.Lemmas.Strand
namespace Flumine.C15
open Flumine.World

/-- C15.1 `Blotter.__setitem__`: the order is appended once to the primary list and once to the live list -/
theorem blotterAdd_spec (w : World) (mid oid : Nat) (m : Market) (hm : w.markets.find? (fun x => decide (x.id = mid)) = some m) :
    ((w.blotterAdd mid oid).market? mid).map (·.blotter) = some (m.blotter ++ [oid]) ∧
    ((w.blotterAdd mid oid).market? mid).map (·.live) = some (m.live ++ [oid]) ∧
    ((w.blotterAdd mid oid).market? mid).map (·.active) = some true := by
  have h : (w.blotterAdd mid oid).market? mid = some { m with active := true, blotter := m.blotter ++ [oid], live := m.live ++ [oid] } :=
    OL.market?_modify_self w mid _ m hm
  rw [h]
  exact ⟨rfl, rfl, rfl⟩

/-- C15.2 `Blotter.complete_order`: exactly that order leaves the live list, the primary list is untouched -/
theorem blotterComplete_spec (w : World) (mid oid : Nat) (m : Market) (hm : w.markets.find? (fun x => decide (x.id = mid)) = some m) :
    ((w.blotterComplete mid oid).market? mid).map (·.live) = some (m.live.erase oid) ∧
    ((w.blotterComplete mid oid).market? mid).map (·.blotter) = some m.blotter := by
  rw [show (w.blotterComplete mid oid).market? mid = some { m with live := m.live.erase oid } from
    OL.market?_modify_self w mid _ m hm]
  exact ⟨rfl, rfl⟩

/-- a placement, even a forced one, of an order already in the blotter is refused (fix 001a1d6) -/
theorem place_twice_refused (w : World) (t : Txn) (oid : Nat) (v : Option Int)
    (h : ((w.modifyOrder oid fun o => { o with client := some t.client }).market! t.market).blotter.contains oid = true) :
    (w.txnPlace t oid v true true).2.2 = .error .alreadyPlaced :=
  C03.place_refused_in_blotter w t oid v true (List.contains_iff_mem.mp h)

/-- C15.4 every view is a filter of the primary list: an order is in the strategy's view iff it is
    in the blotter and belongs to that strategy, in blotter order -/
theorem strategy_view_is_filter (w : World) (mid sid : Nat) :
    w.strategyOrders mid sid = (((w.market! mid).blotter.map w.order!).filter (·.strategy = sid)) := rfl

theorem view_membership (w : World) (mid sid : Nat) (o : Order) :
    o ∈ w.strategyOrders mid sid ↔ (o ∈ (w.market! mid).blotter.map w.order! ∧ o.strategy = sid) := by
  rw [strategy_view_is_filter, List.mem_filter, decide_eq_true_eq]

/-- C15.2 the only statuses with which an order can be absent from the live list are complete ones:
    the simulation loop's per-order step (`loopStep`, Lemmas/Shape.lean) removes an order from the
    live list only if it is (or has just been made) complete -/
theorem live_list_loses_only_complete (mid : Nat) (w : World) (oid : Nat) :
    loopStep mid w oid = w ∨
    (w.order! oid).complete = true ∧ loopStep mid w oid = w.blotterComplete mid oid ∨
    loopStep mid w oid = (w.orderExecutionComplete oid).blotterComplete mid oid :=
  loopStep_keeps_or_completes mid w oid

theorem statusComplete_ec : statusComplete .executionComplete = true := by decide

/-! ### the order table only grows -/

/-- whatever one market update does - due packages executed (place / cancel / update / replace handlers,
    replacement orders created), removals applied, matching, completion, closure, any scripted requests
    of any strategies, refused or accepted - the order ids present before are still present afterwards,
    in the same positions; new orders are only appended -/
theorem order_ids_stable (w : World) (mid : Nat) (book : Book) (script : Nat → List Action) :
    ∃ extra, Ids.ids (w.processMarketBook mid book script).1 = Ids.ids w ++ extra :=
  (eff_processMarketBook w mid book script).keeps

/-- so an order, once created, can always be looked up again -/
theorem order_never_lost (w : World) (mid : Nat) (book : Book) (script : Nat → List Action) (id : Nat)
    (h : OL.HasOrder w id) : OL.HasOrder (w.processMarketBook mid book script).1 id :=
  Ids.orders_never_lost w mid book script id h

/-! ### C15 for every reachable state (invariant by induction over whole runs, `Lemmas/Inv.lean`) -/

open Flumine.Inv in
/-- C15 whole-run: after ANY sequence of market updates - packages executed, removals, matching,
    completion, closure, any requests scripted by any strategies, starting from an empty framework -
    no order id appears twice in a market's blotter, every id in it names exactly the order of that id
    in the order table (so a lookup by order id returns that order), and the live list is part of the blotter -/
theorem blotter_coherent_reachable (cfg : Config) (cl : List Client) (ss : List Strategy)
    (us : List (Nat × Book × (Nat → List Action))) (mid : Nat) :
    let w := runUpdates { cfg := cfg, clients := cl, strategies := ss } us
    (w.market! mid).blotter.Nodup ∧
    (∀ oid ∈ (w.market! mid).blotter, OL.HasOrder w oid ∧ (w.order! oid).id = oid) ∧
    (∀ oid ∈ (w.market! mid).live, oid ∈ (w.market! mid).blotter) := by
  intro w
  have h : Inv w := inv_reachable cfg cl ss us
  exact ⟨h.blotter_nodup mid, fun oid ho => ⟨h.blotter_hasOrder mid oid ho, OL.order!_id w oid (h.blotter_hasOrder mid oid ho)⟩, h.live_sub mid⟩

open Flumine.Inv in
/-- the invariant is preserved by one update from any well-formed world (the induction step) -/
theorem blotter_coherent_step (w : World) (h : Inv w) (mid : Nat) (book : Book) (script : Nat → List Action) :
    Inv (w.processMarketBook mid book script).1 :=
  (good_processMarketBook w mid book script).2 h

open Flumine.Inv in
/-- order ids are creation indices in every reachable state: the n-th order created has id n -/
theorem order_ids_are_indices (cfg : Config) (cl : List Client) (ss : List Strategy)
    (us : List (Nat × Book × (Nat → List Action))) :
    Ids.ids (runUpdates { cfg := cfg, clients := cl, strategies := ss } us) =
      List.range (runUpdates { cfg := cfg, clients := cl, strategies := ss } us).orders.length :=
  (inv_reachable cfg cl ss us).range

open Flumine.Fin Flumine.Inv in
/-- C15 "the live list always contains every order that is not complete", whole-run: in every state reachable
    by any history (any markets, any interleaving, any scripts), an order of a blotter that is not complete is in
    that market's live list (equivalently: an order has left the live list only if it is EXECUTION_COMPLETE) -/
theorem live_list_holds_incomplete_whole_run (cfg : Config) (cl : List Client) (ss : List Strategy) (M : Nat)
    (us : List (Nat × Book × (Nat → List Action))) :
    ∀ oid ∈ ((runUpdates { cfg := cfg, clients := cl, strategies := ss } us).market! M).blotter,
      ((runUpdates { cfg := cfg, clients := cl, strategies := ss } us).order! oid).complete = false →
      oid ∈ ((runUpdates { cfg := cfg, clients := cl, strategies := ss } us).market! M).live := by
  intro oid hb hc
  have b := bi_reachable M cfg cl ss us
  by_contra hn
  have := ec_complete b oid hb (b.live oid hb hn)
  rw [hc] at this; cases this

/-! ### the client views: a replacement order is filed under the client of the order it replaces -/

section ClientViews
open Flumine.OL Flumine.Ids Flumine.Inv Flumine.Fl

/-- the client attribute of an order and the client whose views the blotter filed it under (`Blotter.__setitem__` reads
    `order.client` once, when the order enters) -/
def CC (w : World) (x : Nat) : Option Nat × Option Nat := ((w.order! x).client, (w.order! x).blotterClient)

theorem cc_client {w w' : World} {x y : Nat} (h : CC w' x = CC w y) : (w'.order! x).client = (w.order! y).client := congrArg Prod.fst h

theorem cc_of_orders {w w' : World} (h : w'.orders = w.orders) (x : Nat) : CC w' x = CC w x := by
  unfold CC; rw [order!_congr w w' h x]

/-- (the two hypotheses are auto-parameters: as terms they would be elaborated before `f` is known from the goal) -/
theorem cc_modifyOrder (w : World) (a : Nat) (f : Order → Order) (x : Nat) (hf : ∀ y, y.id = a → (f y).id = a := by intro _ h; exact h)
    (hc : (f (w.order! a)).client = (w.order! a).client ∧ (f (w.order! a)).blotterClient = (w.order! a).blotterClient := by exact ⟨rfl, rfl⟩) :
    CC (w.modifyOrder a f) x = CC w x := by
  unfold CC
  rcases order!_modify w x a f hf with h | ⟨e, _, h⟩
  · rw [h]
  · rw [h, e, hc.1, hc.2]

theorem cc_orderUpdateStatus (w : World) (a : Nat) (s : Status) (ha : HasOrder w a) (x : Nat) :
    CC (w.orderUpdateStatus a s) x = CC w x := by
  unfold CC
  by_cases e : x = a
  · rw [e, orderUpdateStatus_self w a s ha]; rfl
  · rw [orderUpdateStatus_other w x a s ha e]

theorem cc_orderExecutable (w : World) (a : Nat) (ha : HasOrder w a) (x : Nat) : CC (w.orderExecutable a) x = CC w x := by
  unfold orderExecutable
  split
  · exact cc_modifyOrder w a _ x
  · rw [cc_modifyOrder (w.orderUpdateStatus a .executable) a (fun o => { o with ud := {} }) x]
    exact cc_orderUpdateStatus w a _ ha x

theorem cc_orderExecutionComplete (w : World) (a : Nat) (ha : HasOrder w a) (x : Nat) : CC (w.orderExecutionComplete a) x = CC w x := by
  unfold orderExecutionComplete
  rw [cc_modifyOrder (w.orderUpdateStatus a .executionComplete) a (fun o => { o with ud := {}, completeAt := some w.clock }) x]
  exact cc_orderUpdateStatus w a _ ha x

/-- C15 (client views) `market.place_order(order, execute=False, client=c)` on an order that has not been placed: the order
    belongs to `c` afterwards and the blotter files it under `c` -/
theorem place_noexec_files_under_txn_client (w : World) (t : Txn) (rid : Nat) (v : Option Int) (hr : HasOrder w rid)
    (hnb : rid ∉ (w.market! t.market).blotter) (hst : (w.order! rid).status = none) :
    CC (w.txnPlace t rid v false false).1 rid = (some t.client, some t.client) ∧
    ((w.txnPlace t rid v false false).1.order! rid).inBlotter = true := by
  unfold CC
  rw [txnPlace_noexec_eq w t rid v hnb (by rw [hst]; exact nofun),
    filePlacement_order _ t rid v false (hasOrder_modify w rid rid (fun o => { o with client := some t.client }) hr),
    order!_modify_self w rid (fun o => { o with client := some t.client }) hr]
  -- `order!` is a `match`: hidden, so that the projections of `filed` are compared without unfolding it
  generalize w.order! rid = o
  exact ⟨rfl, rfl⟩

/-- the replacement order that `Trade.create_order_replacement` creates carries the client of the order it replaces and is
    not filed anywhere yet -/
theorem createReplacement_client (w : World) (a : Nat) (np sz : Rat) (cr : Time) (hI : Inv w) :
    CC (w.createReplacement a np sz cr).1 (w.createReplacement a np sz cr).2 = ((w.order! a).client, none) :=
  congrArg (fun o : Order => (o.client, o.blotterClient)) ((createReplacement_appended w a np sz cr).found hI)

/-- the replacement order (the next creation index) is filed under the client of the transaction it is placed in, which is
    `o.client`, or - refused by the exchange - keeps the client of `a`, which it was created with, and is filed nowhere -/
theorem replaceRest_cc (p : Package) (w : World) (o : Order) (a : Nat) (book : Book) (np : Option Rat) (sc : Rat)
    (ha : HasOrder w a) (hI : Inv.Inv w) (c : Nat) (hoc : o.client = some c) (hac : (w.order! a).client = some c) :
    CC (replaceRest p w o a book np sc) w.orders.length = (some c, some c) ∨
    CC (replaceRest p w o a book np sc) w.orders.length = (some c, none) := by
  -- walked by hand: `Fl.replaceRest_cases` gives the intermediate world only up to `Calm`, which forgets `client`
  unfold replaceRest
  extract_lets cr rid w2 r cl runner pr w3 w4 w5 tp
  have hrid : w.orders.length = rid := rfl
  have h2 := createReplacement_appended w a (np.getD 0) sc p.created
  have e3 : Eff [.order] w2 w3 := eff_modifyOrder w2 rid _
  have hr3 : HasOrder w3 rid := (e3.hasOrder rid).mpr h2.has
  rw [hrid]
  split
  · -- the new order is in no blotter and has no status, so its placement is not refused
    have c5 : Calm w2 w5 := e3.calm.trans ((eff_modifyOrder w3 rid _).calm.trans (eff_emit w4 _).calm)
    have hr5 : HasOrder w5 rid := (c5.hasOrder rid).mpr h2.has
    have hcl : o.client.getD ((w5.clients.head?.map (·.id)).getD 0) = c := by rw [hoc]; rfl
    have c6 : CC tp.1 rid = (some c, some c) := by
      unfold tp; rw [hcl]
      exact (place_noexec_files_under_txn_client w5 { market := p.market, client := c } rid none hr5
        (by rw [(c5.market _).1]; exact h2.unfiled hI _) ((c5.status rid).trans (congrArg Order.status (h2.found hI)))).1
    have hr6 : HasOrder tp.1 rid := (eff_txnPlace_noexec w5 _ rid none).keeps.hasOrder rid hr5
    clear_value cr w3 w4 w5 tp
    exact .inl ((cc_of_orders (tradeExit_orders _ _) rid).trans ((cc_orderExecutable tp.1 rid hr6 rid).trans c6))
  · have c3 : CC w3 rid = (some c, none) :=
      (cc_modifyOrder w2 rid _ rid).trans (hac ▸ createReplacement_client w a (np.getD 0) sc p.created hI)
    have ha4 : HasOrder (w3.orderExecutionComplete rid) a :=
      (eff_orderExecutionComplete w3 rid).keeps.hasOrder a ((e3.hasOrder a).mpr (h2.keeps.hasOrder a ha))
    clear_value cr w3
    exact .inr ((cc_of_orders (tradeExit_orders _ _) rid).trans ((cc_orderExecutable _ a ha4 rid).trans
      ((cc_orderExecutionComplete w3 rid hr3 rid).trans c3)))

open Flumine.Strand in
/-- C15 (client views) the place half of a simulated replace: whatever the outcome, the only new order is the replacement; it
    carries the client `c` of the order it replaces, and it is filed under `c` (re-placement accepted:
    `market.place_order(replacement, execute=False, client=order.client)`) or under nobody (re-placement refused: it never
    enters the blotter) - never under the default client or any other -/
theorem replacement_filed_under_the_client_of_the_replaced_order (p : Package) (w : World) (o : Order) (a : Nat) (book : Book)
    (np : Option Rat) (sc : Rat) (failed : Nat) (ha : HasOrder w a) (hI : Inv.Inv w) (c : Nat)
    (hoc : o.client = some c) (hac : (w.order! a).client = some c) :
    ∀ x, ¬ HasOrder w x → HasOrder (replacePlace p w o a book np sc failed).1 x →
      CC (replacePlace p w o a book np sc failed).1 x = (some c, some c) ∨
      CC (replacePlace p w o a book np sc failed).1 x = (some c, none) := by
  rw [replacePlace_fst]
  have e1 := (eff_orderExecutionComplete w a).trans (eff_bumpBetId _) (T := .betId :: lifecycle)
  have g1 : Good w (w.orderExecutionComplete a).bumpBetId := (good_orderExecutionComplete w a).trans (eff_bumpBetId _).calm.good
  have ha1 : HasOrder (w.orderExecutionComplete a).bumpBetId a := (e1.hasOrder a).mpr ha
  have hac1 : ((w.orderExecutionComplete a).bumpBetId.order! a).client = some c :=
    (cc_client ((cc_of_orders (w := w.orderExecutionComplete a) (w' := (w.orderExecutionComplete a).bumpBetId) rfl a).trans
      (cc_orderExecutionComplete w a ha a))).trans hac
  have s1 := e1.ids
  have hI1 := g1.2 hI
  generalize (w.orderExecutionComplete a).bumpBetId = w1 at s1 hI1 ha1 hac1 ⊢
  -- the one new order is the next creation index (Strand)
  have h1 := (replaceRest_new p w1 o a book np sc ha1 hI1).1
  have h2 := replaceRest_cc p w1 o a book np sc ha1 hI1 c hoc hac1
  intro x hx hx'
  rw [eq_of_new (s1 ▸ h1) hx hx']; exact h2

open Flumine.Strand in
/-- ... and so for one step of `execute_replace` (cancel half, then the place half if the cancel succeeded): every order the step
    creates carries the client of the order the step is about -/
theorem replace_step_files_under_the_client_of_the_replaced_order (p : Package) (acc : World × Nat) (pr : Nat × Option Rat)
    (ha : HasOrder acc.1 pr.1) (hI : Inv.Inv acc.1) (c : Nat) (hc : (acc.1.order! pr.1).client = some c) :
    ∀ x, ¬ HasOrder acc.1 x → HasOrder (replaceStep p acc pr).1 x →
      CC (replaceStep p acc pr).1 x = (some c, some c) ∨ CC (replaceStep p acc pr).1 x = (some c, none) := by
  obtain ⟨w, failed⟩ := acc
  obtain ⟨a, newPrice⟩ := pr
  unfold replaceStep
  dsimp -zeta only at ha hI hc ⊢
  extract_lets o w1 book red cr w2
  have c2 : Calm w w2 := (eff_tradeEnter w o.trade).calm.trans (eff_modifyOrder w1 a _).calm
  have hc2 : (w2.order! a).client = some c :=
    (cc_client ((cc_modifyOrder w1 a _ a).trans (cc_of_orders (tradeEnter_orders _ _) a) : CC w2 a = CC w a)).trans hc
  intro x hx
  split
  · dsimp -zeta only
    clear_value w1 w2
    intro hx'
    -- the cancel half failed: no order is created
    exact absurd ((c2.hasOrder x).mp (((eff_orderExecutable w2 a).hasOrder x).mp (((eff_tradeExit _ _).calm.hasOrder x).mp hx'))) hx
  · clear_value w1 w2
    exact replacement_filed_under_the_client_of_the_replaced_order p w2 o a book newPrice _ failed ((c2.hasOrder a).mpr ha)
      (c2.good.2 hI) c hc hc2 x fun h => hx ((c2.hasOrder x).mp h)

/-- non-vacuity: two clients, an order placed in a transaction of client 1 (not the default client), replaced one update
    later; the replacement (order 1) belongs to client 1 and is filed under client 1 -/
def nvClBook (pt : Int) : Book := { pt := pt, activeRunners := 2, runners := [{ sel := 1, atb := [⟨3, 10⟩], atl := [⟨4, 10⟩] }, { sel := 2 }] }
def nvClOrder : Order := { id := 0, trade := 0, strategy := 0, market := 1, sel := 1, sim := { side := .back, kind := .limit, price := 5, size := 4 } }
def nvClWorld : World := Inv.runUpdates { clients := [{ id := 0 }, { id := 1 }], strategies := [{ id := 0, streams := [0] }] }
  [(1, nvClBook 1000, fun _ => [.batchBegin 1, .create nvClOrder (some { id := 0, strategy := 0, market := 1, sel := 1 }), .place (.byId 0) none false, .batchEnd]),
   (1, nvClBook 2000, fun _ => [.replace (.byId 0) 6 none false]),
   (1, nvClBook 3000, fun _ => [])]
example : (nvClWorld.orders.map fun o => (o.id, o.status, o.client, o.blotterClient, o.inBlotter)) =
    [(0, some .executionComplete, some 1, some 1, true), (1, some .executable, some 1, some 1, true)] := by decide +kernel

end ClientViews

end Flumine.C15
