/-
  C18 — The transaction-limit control counts exactly and blocks when exceeded.
  Model: Txn.lean — TxnCounter.add (`add_transaction`), checkHour (`_check_hour` / `_set_next_hour`),
  counterSafe (`safe`); time is an integer millisecond clock, `hourKey` its clock hour.
-/
import Flumine.Txn
import Flumine.Lemmas.Tables
import Mathlib.Tactic.Linarith  -- no tactic of it is used: it decides which instances the `List.sum` of `hourly_exact_since_restart` elaborates to
namespace Flumine.C18
open Flumine.World

/-- what happens to a client's control: transactions are added, requests are validated at some time -/
inductive Ev
  | add (n : Nat) (failed : Bool)
  | validate (now : Time)

def step (k : TxnCounter) : Ev → TxnCounter
  | .add n f => k.add n f
  | .validate now => checkHour k now

def sumAdds (failed : Bool) : List Ev → Nat
  | [] => 0
  | .add n f :: rest => (if f = failed then n else 0) + sumAdds failed rest
  | .validate _ :: rest => sumAdds failed rest

/-- does this validation restart the hourly counters? (first validation, or the hour key of now + 1h changed) -/
def restarts (k : TxnCounter) (now : Time) : Bool :=
  match k.nextHour with
  | none => true
  | some h => decide (h ≠ hourKey now + 1)

theorem checkHour_eq (k : TxnCounter) (now : Time) :
    checkHour k now = if restarts k now then { k with nextHour := some (hourKey now + 1), curCount := 0, curFailed := 0 } else k := by
  unfold checkHour restarts
  cases k.nextHour with
  | none => rfl
  | some h => by_cases e : h = hourKey now + 1 <;> simp [e]

theorem checkHour_totals (k : TxnCounter) (now : Time) :
    (checkHour k now).count = k.count ∧ (checkHour k now).failed = k.failed := by
  rw [checkHour_eq]; split <;> exact ⟨rfl, rfl⟩

theorem add_fields (k : TxnCounter) (n : Nat) (f : Bool) :
    (k.add n f).count = k.count + (if f = false then n else 0) ∧ (k.add n f).failed = k.failed + (if f = true then n else 0) ∧
    (k.add n f).curCount + (k.add n f).curFailed = k.curCount + k.curFailed + n := by
  cases f
  · exact ⟨rfl, rfl, Nat.add_right_comm ..⟩
  · exact ⟨rfl, rfl, (Nat.add_assoc ..).symm⟩

/-- C18.1 the total counters equal the sum of everything added since start-up, split by `failed`,
    whatever validations (hour checks) happened in between -/
theorem totals_exact (evs : List Ev) (k : TxnCounter) :
    (evs.foldl step k).count = k.count + sumAdds false evs ∧
    (evs.foldl step k).failed = k.failed + sumAdds true evs := by
  induction evs generalizing k with
  | nil => exact ⟨rfl, rfl⟩
  | cons e rest ih =>
    rw [List.foldl_cons, (ih (step k e)).1, (ih (step k e)).2]
    cases e with
    | add n f =>
      rw [show step k (.add n f) = k.add n f from rfl, (add_fields k n f).1, (add_fields k n f).2.1]
      exact ⟨Nat.add_assoc .., Nat.add_assoc ..⟩
    | validate now =>
      rw [show step k (.validate now) = checkHour k now from rfl, (checkHour_totals k now).1, (checkHour_totals k now).2]
      exact ⟨rfl, rfl⟩

theorem checkHour_restart (k : TxnCounter) (now : Time) (h : restarts k now = true) :
    (checkHour k now).curCount = 0 ∧ (checkHour k now).curFailed = 0 ∧ (checkHour k now).nextHour = some (hourKey now + 1) := by
  rw [checkHour_eq, if_pos h]; exact ⟨rfl, rfl, rfl⟩

theorem checkHour_same_hour (k : TxnCounter) (now : Time) (h : restarts k now = false) : checkHour k now = k := by
  rw [checkHour_eq, h]; rfl

/-- C18.2 between two restarts the hourly figure equals the quantity added since the last restart -/
theorem hourly_exact_since_restart (adds : List (Nat × Bool)) (k : TxnCounter) (now : Time) (h : restarts k now = true) :
    let k1 := (adds.map fun a => Ev.add a.1 a.2).foldl step (checkHour k now)
    k1.curCount + k1.curFailed = (adds.map (·.1)).sum := by
  intro k1
  obtain ⟨a, b, _⟩ := checkHour_restart k now h
  have gen (l : List (Nat × Bool)) (k0 : TxnCounter) :
      ((l.map fun a => Ev.add a.1 a.2).foldl step k0).curCount + ((l.map fun a => Ev.add a.1 a.2).foldl step k0).curFailed
        = k0.curCount + k0.curFailed + (l.map (·.1)).sum := by
    induction l generalizing k0 with
    | nil => rfl
    | cons x xs ih =>
      rw [List.map_cons, List.foldl_cons, ih, List.map_cons, List.sum_cons, ← Nat.add_assoc]
      exact congrArg (· + _) (add_fields k0 x.1 x.2).2.2
  show ((adds.map fun a => Ev.add a.1 a.2).foldl step (checkHour k now)).curCount + _ = _
  rw [gen, a, b]
  exact Nat.zero_add _

theorem add_comm (k : TxnCounter) (a b : Nat × Bool) : (k.add a.1 a.2).add b.1 b.2 = (k.add b.1 b.2).add a.1 a.2 := by
  obtain ⟨n, f⟩ := a; obtain ⟨m, g⟩ := b
  cases f <;> cases g <;> simp only [TxnCounter.add, Bool.false_eq_true, if_false, if_true, Nat.add_right_comm]

/-- C18.3 executions finishing concurrently: increments commute, so any interleaving (permutation) of
    a multiset of add_transaction calls leaves the same counters -/
theorem order_independent (l1 l2 : List (Nat × Bool)) (h : l1.Perm l2) (k : TxnCounter) :
    l1.foldl (fun k a => k.add a.1 a.2) k = l2.foldl (fun k a => k.add a.1 a.2) k := by
  induction h generalizing k with
  | nil => rfl
  | cons x _ ih => simp only [List.foldl_cons]; exact ih _
  | swap x y l => simp only [List.foldl_cons]; rw [add_comm]
  | trans _ _ ih1 ih2 => rw [ih1, ih2]

/-- C18.4 once the hourly figure exceeds the limit the control is not safe: every non-forced request is
    refused (`validateControls` ends in `transactionCount`) as long as validations stay in the same clock hour -/
theorem blocks_when_exceeded (k : TxnCounter) (limit : Nat) (h : limit < k.curCount + k.curFailed) :
    counterSafe k (some limit) = false :=
  decide_eq_false (Nat.not_le.mpr h)

theorem still_blocked_same_hour (k : TxnCounter) (limit : Nat) (now : Time) (h : limit < k.curCount + k.curFailed)
    (hs : restarts k now = false) : counterSafe (checkHour k now) (some limit) = false := by
  rw [checkHour_same_hour k now hs]; exact blocks_when_exceeded k limit h

/-- the first request in a new clock hour is evaluated on counters restarted from zero, hence accepted -/
theorem unblocked_new_hour (k : TxnCounter) (limit : Nat) (now : Time) (hs : restarts k now = true) :
    counterSafe (checkHour k now) (some limit) = true := by
  obtain ⟨a, b, _⟩ := checkHour_restart k now hs
  unfold counterSafe; simp [a, b]

/-- clients without a limit are never blocked -/
theorem no_limit_never_blocks (k : TxnCounter) : counterSafe k none = true := rfl

/-- clients do not affect each other: adding to one client's control only rewrites the record with
    that client's id; every other client's record (its counters and limit) is left as it was -/
theorem other_clients_untouched (w : World) (cid : Nat) (n : Nat) (f : Bool) :
    ∀ x ∈ w.clients, x.id ≠ (w.client! cid).id → x ∈ (w.addTransaction cid n f).clients := by
  intro x hx hne
  unfold addTransaction setClient
  simp only
  refine List.mem_map.mpr ⟨x, hx, ?_⟩
  rw [if_neg hne]

/-- C18.1 at the level of the framework: after an execution handler reports `n` submitted bets (or `n` failed
    instructions) for a client the framework knows, THAT client's control holds exactly the old counters plus `n` in the
    right pair of counters (total and hourly) - nothing is dropped, nothing is counted twice -/
theorem addTransaction_exact (w : World) (cid n : Nat) (f : Bool) (h : (w.client? cid).isSome = true) :
    ((w.addTransaction cid n f).client! cid).counter = (w.client! cid).counter.add n f := by
  unfold addTransaction client!
  rw [client?_setClient]
  cases hx : w.client? cid with
  | none => rw [hx] at h; cases h
  | some x => simp

/-- ... and every OTHER client's control is exactly as it was (several clients with different limits) -/
theorem addTransaction_other (w : World) (cid other n : Nat) (f : Bool) (h : (w.client? cid).isSome = true) (hne : other ≠ cid) :
    (w.addTransaction cid n f).client? other = w.client? other := by
  unfold addTransaction client!
  rw [client?_setClient]
  cases hx : w.client? cid with
  | none => rw [hx] at h; cases h
  | some x =>
    cases hy : w.client? other with
    | none => rfl
    | some y => simp [client?_id hx, client?_id hy, hne]

example : ((({ clients := [{ id := 0 }, { id := 1, txLimit := some 3 }] } : World).addTransaction 1 2 false).client! 1).counter
    = { count := 2, curCount := 2 } := by decide

example : counterSafe { curCount := 3, curFailed := 1 } (some 3) = false := by decide
example : counterSafe { curCount := 2, curFailed := 1 } (some 3) = true := by decide

end Flumine.C18
