/-
  C01 — Exposure limits bound every order that reaches the exchange.
  Model: Controls.strategyExposure (StrategyExposure._validate), Exposure.getExposures /
  marketExposure, Txn.validateControls / txnPlace.
-/
import Flumine.Txn
import Flumine.Props.C16
import Flumine.Lemmas.Shape
import Flumine.Lemmas.SimLemmas
import Mathlib.Tactic.Linarith
import Mathlib.Tactic.Ring
namespace Flumine.C01
open Flumine.World Flumine.C16

/-! ### C01.1 the decision: an order passes iff all three worst-case figures stay within their limits -/

/-- the selection figure the control compares: current worst case on the order's losing side -/
def curExp (orders : List XOrder) (o : COrder) (excl : Option Nat) : Rat :=
  match o.x.side with
  | .back => -(getExposures orders o.x.sel excl).worstLose
  | .lay => -(getExposures orders o.x.sel excl).worstWin

def within (lim : Option Rat) (x : Rat) : Prop := ∀ m, lim = some m → x ≤ m

instance (lim : Option Rat) (x : Rat) : Decidable (within lim x) := by
  unfold within
  cases lim with
  | none => exact isTrue (by intro m h; cases h)
  | some l => exact if h : x ≤ l then isTrue (by intro m hm; cases hm; exact h) else isFalse (fun hh => h (hh l rfl))

@[simp] theorem within_none (x : Rat) : within none x ↔ True := by simp [within]
@[simp] theorem within_some (a x : Rat) : within (some a) x ↔ x ≤ a := by simp [within]

/-- one guard of the control followed by the rest `k` of the checks -/
theorem guard_ok (lim : Option Rat) (x : Rat) (e : ExpoErr) (k : Except ExpoErr Unit) :
    (match lim with
      | some m => if m < x then (do throw e; k) else k
      | none => k) = .ok () ↔ within lim x ∧ k = .ok () := by
  cases lim with
  | none => simp
  | some m =>
    simp only [within_some]
    split_ifs with h
    · exact ⟨nofun, fun h' => absurd h'.1 (not_le.mpr h)⟩
    · exact ⟨fun h' => ⟨not_lt.mp h, h'⟩, And.right⟩

/-- a NEW order (that passed `strategy.validate_order`) is accepted iff, counting it in full,
    (1) its own worst-case loss ≤ max_order_exposure, (2) the strategy's worst case on the selection
    plus the order ≤ max_selection_exposure, (3) the worst case over the market with the order
    ≤ max_market_exposure — each only when configured -/
theorem place_accept_iff (lim : StratLimits) (orders : List XOrder) (ar wn : Nat) (o : COrder) (oe : Rat)
    (hoe : orderExposure o = .ok oe) :
    strategyExposure lim orders ar wn o .place true = .ok () ↔
      within lim.maxOrder oe ∧ within lim.maxSel (curExp orders o none + oe) ∧
      within lim.maxMarket (-(marketExposure orders ar wn none (some o.x))) := by
  unfold strategyExposure curExp
  simp only [Bool.not_true, Bool.false_eq_true, and_false, if_false, true_or, if_true, reduceCtorEq]
  -- `by_cases`, not `split_ifs`: the unfolded `do` block repeats the later checks in every branch of the earlier ones
  by_cases h : lim.maxOrder.isSome = true ∨ lim.maxSel.isSome = true
  · rw [if_pos h, hoe]
    refine (guard_ok _ _ _ _).trans (and_congr_right fun _ => ?_)
    refine (guard_ok _ _ _ _).trans (and_congr_right fun _ => ?_)
    exact (guard_ok _ _ _ _).trans (and_iff_left rfl)
  · -- no order or selection limit: the control does not compute `oe`, and only the market guard is left
    obtain ⟨h1, h2⟩ := not_or.mp h
    rw [if_neg h, Option.not_isSome_iff_eq_none.mp h1, Option.not_isSome_iff_eq_none.mp h2]
    simp only [within_none, true_and]
    exact (guard_ok _ _ _ _).trans (and_iff_left rfl)

/-- requests that cannot add exposure are not subject to the limits -/
theorem cancel_update_pass (lim : StratLimits) (orders : List XOrder) (ar wn : Nat) (o : COrder) (hb : o.betdaq = false) :
    strategyExposure lim orders ar wn o .cancel true = .ok () ∧ strategyExposure lim orders ar wn o .update true = .ok () := by
  unfold strategyExposure
  simp [hb, pure, Except.pure]

/-- an order refused by `strategy.validate_order` (trade / live-trade limits, C10) never passes -/
theorem place_refused_when_not_validated (lim : StratLimits) (orders : List XOrder) (ar wn : Nat) (o : COrder) :
    strategyExposure lim orders ar wn o .place false = .error .validateOrder := by
  unfold strategyExposure
  simp [bind, Except.bind, throw, throwThe, MonadExceptOf.throw]

/-! ### C01.2 what an order contributes to the exact worst case, and how it evolves -/

/-- an order that the exposure calculation counts (acknowledged, not excluded) -/
def Counted (o : XOrder) : Prop := isPendingStatus o.status = false

/-- contribution to the profit if the selection wins -/
def cWin (o : XOrder) : Rat :=
  match o.kind with
  | .limit =>
    let ap : Rat := if o.lineRange then 2 else o.avgPrice
    let pr : Rat := if o.lineRange then 2 else o.price.getD 0
    match o.side with
    | .back => (ap - 1) * o.sizeMatched
    | .lay => -((ap - 1) * o.sizeMatched) - (if o.complete then 0 else (if pr = 0 then 0 else (pr - 1) * o.sizeRemaining))
  | _ => match o.side with | .back => 0 | .lay => -o.liability

/-- contribution to the profit if the selection loses -/
def cLose (o : XOrder) : Rat :=
  match o.kind with
  | .limit =>
    match o.side with
    | .back => -o.sizeMatched - (if o.complete then 0 else (if (if o.lineRange then (2 : Rat) else o.price.getD 0) = 0 then 0 else o.sizeRemaining))
    | .lay => o.sizeMatched
  | _ => match o.side with | .back => -o.liability | .lay => 0

theorem sumRisk_append (l : List (Rat × Rat)) (p s : Rat) : sumRisk (l ++ [(p, s)]) = sumRisk l + (p - 1) * s := by
  unfold sumRisk
  rw [List.map_append]
  exact sumRat_concat _ _

theorem sumStake_append (l : List (Rat × Rat)) (p s : Rat) : sumStake (l ++ [(p, s)]) = sumStake l + s := by
  unfold sumStake
  rw [List.map_append]
  exact sumRat_concat _ _

theorem exact_push (b : Buckets) (p s : Rat) :
    (exactWin { b with mb := b.mb ++ [(p, s)] } = exactWin b + (p - 1) * s ∧
      exactLose { b with mb := b.mb ++ [(p, s)] } = exactLose b - s) ∧
    (exactWin { b with ml := b.ml ++ [(p, s)] } = exactWin b - (p - 1) * s ∧
      exactLose { b with ml := b.ml ++ [(p, s)] } = exactLose b + s) ∧
    (exactWin { b with ub := b.ub ++ [(p, s)] } = exactWin b ∧
      exactLose { b with ub := b.ub ++ [(p, s)] } = exactLose b - s) ∧
    (exactWin { b with ul := b.ul ++ [(p, s)] } = exactWin b - (p - 1) * s ∧
      exactLose { b with ul := b.ul ++ [(p, s)] } = exactLose b) := by
  simp only [exactWin, exactLose, sumRisk_append, sumStake_append]
  refine ⟨⟨?_, ?_⟩, ⟨?_, ?_⟩, ⟨?_, ?_⟩, ⟨?_, ?_⟩⟩ <;> first | trivial | ring

/-- the limit branch of `addOrder` with the order's fields as variables -/
theorem limit_exact (b : Buckets) (side : Side) (c : Bool) (ap pr sm sr : Rat) :
    let b1 := if sm ≠ 0 then
        match side with
        | .back => { b with mb := b.mb ++ [(ap, sm)] }
        | .lay => { b with ml := b.ml ++ [(ap, sm)] }
      else b
    let r := if !c then
        if pr ≠ 0 ∧ sr ≠ 0 then
          match side with
          | .back => { b1 with ub := b1.ub ++ [(pr, sr)] }
          | .lay => { b1 with ul := b1.ul ++ [(pr, sr)] }
        else b1
      else b1
    exactWin r = exactWin b + (match side with
      | .back => (ap - 1) * sm
      | .lay => -((ap - 1) * sm) - (if c then 0 else (if pr = 0 then 0 else (pr - 1) * sr))) ∧
    exactLose r = exactLose b + (match side with
      | .back => -sm - (if c then 0 else (if pr = 0 then 0 else sr))
      | .lay => sm) := by
  intro b1 r
  have hb1 : exactWin b1 = exactWin b + (match side with | .back => (ap - 1) * sm | .lay => -((ap - 1) * sm)) ∧
      exactLose b1 = exactLose b + (match side with | .back => -sm | .lay => sm) := by
    by_cases h : sm = 0
    · cases side <;> simp [b1, h]
    · cases side <;> simp [b1, h, exact_push] <;> ring
  rcases c with _ | _
  · by_cases hp : pr = 0
    · cases side <;> simp [r, hp, hb1]
    · by_cases hs : sr = 0
      · cases side <;> simp [r, hp, hs, hb1]
      · cases side <;> simp [r, hp, hs, hb1, exact_push] <;> ring
  · cases side <;> simp [r, hb1]

/-- a limit order carries a price (outside line markets, where the code takes 2) -/
def HasPrice (o : XOrder) : Prop := o.kind = .limit → o.lineRange = false → o.price.isSome

def Good (os : List XOrder) : Prop := ∀ o ∈ os, Counted o ∧ HasPrice o

/-- one loop iteration of get_exposures adds exactly the order's contributions to the exact figures -/
theorem addOrder_exact (b : Buckets) (o : XOrder) (hc : Counted o) (hp : HasPrice o) :
    exactWin (addOrder none b o) = exactWin b + cWin o ∧ exactLose (addOrder none b o) = exactLose b + cLose o := by
  unfold addOrder Counted HasPrice at *
  simp only [reduceCtorEq, if_false, hc, Bool.false_eq_true]
  cases hk : o.kind with
  | limit =>
    simp only [cWin, cLose, hk]
    cases hl : o.lineRange with
    | true => exact limit_exact b o.side o.complete 2 2 o.sizeMatched o.sizeRemaining
    | false =>
      obtain ⟨pr, hpr⟩ := Option.isSome_iff_exists.mp (hp hk hl)
      simp only [Bool.false_eq_true, if_false, hpr, Option.getD_some]
      exact limit_exact b o.side o.complete o.avgPrice pr o.sizeMatched o.sizeRemaining
  | limitOnClose | marketOnClose =>
    simp only [cWin, cLose, hk, exactWin, exactLose]
    cases o.side <;> constructor <;> ring

theorem foldl_exact (os : List XOrder) (b : Buckets) (h : Good os) :
    exactWin (os.foldl (addOrder none) b) = exactWin b + sumRat (os.map cWin) ∧
    exactLose (os.foldl (addOrder none) b) = exactLose b + sumRat (os.map cLose) := by
  induction os generalizing b with
  | nil => simp [sumRat]
  | cons o os ih =>
    have ho := h o (List.mem_cons_self)
    obtain ⟨a1, a2⟩ := addOrder_exact b o ho.1 ho.2
    obtain ⟨i1, i2⟩ := ih (addOrder none b o) (fun x hx => h x (List.mem_cons_of_mem _ hx))
    simp only [List.foldl_cons, List.map_cons, sumRat, i1, i2, a1, a2]
    constructor <;> ring

/-- the exact worst-case figures of a position are the sums of its orders' contributions -/
theorem position_exact (os : List XOrder) (h : Good os) :
    exactWin (os.foldl (addOrder none) {}) = sumRat (os.map cWin) ∧
    exactLose (os.foldl (addOrder none) {}) = sumRat (os.map cLose) := by
  have e : exactWin ({} : Buckets) = 0 ∧ exactLose ({} : Buckets) = 0 := by
    simp [exactWin, exactLose, sumRisk, sumStake, sumRat]
  simpa only [e.1, e.2, zero_add] using foldl_exact os {} h

/-- how an order at the exchange can change after it was accepted: it is filled (in part) at its
    limit price or better, or (part of) what remains is cancelled / lapses, or it completes -/
structure Evolves (o o' : XOrder) : Prop where
  same : o'.id = o.id ∧ o'.sel = o.sel ∧ o'.side = o.side ∧ o'.kind = o.kind ∧ o'.lineRange = o.lineRange ∧ o'.price = o.price ∧ o'.liability = o.liability
  counted : Counted o'
  limit : o.kind = .limit
  open_ : o.complete = false
  price_ok : 1 ≤ (if o.lineRange then (2 : Rat) else o.price.getD 0)
  more_matched : o.sizeMatched ≤ o'.sizeMatched
  rem_nonneg : 0 ≤ o'.sizeRemaining
  /-- nothing appears from nowhere: matched + remaining never grows -/
  conserve : o'.sizeMatched + o'.sizeRemaining ≤ o.sizeMatched + o.sizeRemaining
  /-- the new fills are at the limit price or better: the matched risk (avg - 1) x matched moves by the
      fills' own risk, which for a back is at least, for a lay at most, (limit - 1) x filled -/
  fills_better :
    match o.side with
    | .back => (if o.lineRange then (2 : Rat) else o.avgPrice) * o.sizeMatched - o.sizeMatched +
                 ((if o.lineRange then (2 : Rat) else o.price.getD 0) - 1) * (o'.sizeMatched - o.sizeMatched)
               ≤ (if o.lineRange then (2 : Rat) else o'.avgPrice) * o'.sizeMatched - o'.sizeMatched
    | .lay => (if o.lineRange then (2 : Rat) else o'.avgPrice) * o'.sizeMatched - o'.sizeMatched
               ≤ (if o.lineRange then (2 : Rat) else o.avgPrice) * o.sizeMatched - o.sizeMatched +
                 ((if o.lineRange then (2 : Rat) else o.price.getD 0) - 1) * (o'.sizeMatched - o.sizeMatched)

/-- the arithmetic of `evolves_monotone` on the numbers alone: limit price `P`, matched `m → m'` at average prices
    `A → A'`, remaining `r → r'`; the two products that matter are non-negative -/
theorem evolve_arith (P A A' m m' r r' : Rat) (hP : 1 ≤ P) (hm : m ≤ m') (hc : m' + r' ≤ m + r) :
    (A * m - m + (P - 1) * (m' - m) ≤ A' * m' - m' → (A - 1) * m ≤ (A' - 1) * m' ∧ -m - r ≤ -m' - r') ∧
    (A' * m' - m' ≤ A * m - m + (P - 1) * (m' - m) → -((A - 1) * m) - (P - 1) * r ≤ -((A' - 1) * m') - (P - 1) * r') := by
  have h1 : 0 ≤ (P - 1) * (m' - m) := mul_nonneg (sub_nonneg.mpr hP) (sub_nonneg.mpr hm)
  have h2 : 0 ≤ (P - 1) * (r - (m' - m) - r') := mul_nonneg (sub_nonneg.mpr hP) (by linarith only [hc])
  exact ⟨fun h => ⟨by linarith only [h, h1], by linarith only [hc]⟩, fun h => by linarith only [h, h2]⟩

/-- C01.2 no later fill, cancellation, lapse or completion makes either outcome worse -/
theorem evolves_monotone (o o' : XOrder) (h : Evolves o o') : cWin o ≤ cWin o' ∧ cLose o ≤ cLose o' := by
  obtain ⟨⟨_, _, hside, hkind, hlr, hprice, _⟩, _, hlim, hopen, hpk, hmm, hrem, hcons, hfb⟩ := h
  unfold cWin cLose
  rw [hkind, hlim, hside, hlr, hprice, hopen]
  generalize (if o.lineRange then (2 : Rat) else o.price.getD 0) = P at hpk hfb ⊢
  generalize (if o.lineRange then (2 : Rat) else o.avgPrice) = A at hfb ⊢
  generalize (if o.lineRange then (2 : Rat) else o'.avgPrice) = A' at hfb ⊢
  have hP : P ≠ 0 := fun e => by rw [e] at hpk; exact absurd hpk (by decide)
  -- what of `o'` can still be matched: nothing once it is complete
  have hr : o'.sizeMatched + (if o'.complete then 0 else o'.sizeRemaining) ≤ o.sizeMatched + o.sizeRemaining := by
    split
    · exact (add_le_add le_rfl hrem).trans hcons
    · exact hcons
  have key := evolve_arith P A A' _ _ _ _ hpk hmm hr
  rw [mul_ite, mul_zero] at key
  cases hs : o.side <;> rw [hs] at hfb <;> simp only [hP, if_false, Bool.false_eq_true]
  · exact key.1 hfb
  · exact ⟨key.2 hfb, hmm⟩

/-- the same for a whole position: orders evolve (or stay as they are) independently -/
theorem position_monotone (os os' : List XOrder) (h : List.Forall₂ (fun o o' => o' = o ∨ Evolves o o') os os') :
    sumRat (os.map cWin) ≤ sumRat (os'.map cWin) ∧ sumRat (os.map cLose) ≤ sumRat (os'.map cLose) := by
  induction h with
  | nil => simp [sumRat]
  | cons hx _ ih =>
    have := hx.elim (fun e => e ▸ ⟨le_rfl, le_rfl⟩) (evolves_monotone _ _)
    exact ⟨add_le_add this.1 ih.1, add_le_add this.2 ih.2⟩

/-! ### C01.3 acceptance keeps the position within the limit; by induction, so does every history -/

/-- both outcomes of the selection are within the limit (one penny of slack: the control compares
    figures rounded to 2dp) -/
def Safe (m : Rat) (os : List XOrder) : Prop :=
  -(sumRat (os.map cWin)) ≤ m + 1 / 100 ∧ -(sumRat (os.map cLose)) ≤ m + 1 / 100

theorem reported_vs_contributions (os : List XOrder) (h : Good os) :
    (exposuresOf (os.foldl (addOrder none) {})).worstWin ≤ sumRat (os.map cWin) + 1 / 100 ∧
    (exposuresOf (os.foldl (addOrder none) {})).worstLose ≤ sumRat (os.map cLose) + 1 / 100 := by
  obtain ⟨r1, r2⟩ := reported_close (os.foldl (addOrder none) {})
  rw [← (position_exact os h).1, ← (position_exact os h).2]
  exact ⟨sub_le_iff_le_add'.mp ((absR_le_iff _ _).mp r1).2, sub_le_iff_le_add'.mp ((absR_le_iff _ _).mp r2).2⟩

/-- the acknowledged form of a new BACK limit order: nothing matched, everything remaining -/
def AckBack (o : XOrder) (price size : Rat) : Prop :=
  o.kind = .limit ∧ o.side = .back ∧ o.lineRange = false ∧ o.price = some price ∧ price ≠ 0 ∧ o.complete = false ∧
  o.sizeMatched = 0 ∧ o.sizeRemaining = size ∧ Counted o

def AckLay (o : XOrder) (price size : Rat) : Prop :=
  o.kind = .limit ∧ o.side = .lay ∧ o.lineRange = false ∧ o.price = some price ∧ price ≠ 0 ∧ o.complete = false ∧
  o.sizeMatched = 0 ∧ o.sizeRemaining = size ∧ Counted o

theorem safe_snoc (m : Rat) (os : List XOrder) (o : XOrder) :
    Safe m (os ++ [o]) ↔ -(sumRat (os.map cWin) + cWin o) ≤ m + 1 / 100 ∧ -(sumRat (os.map cLose) + cLose o) ≤ m + 1 / 100 := by
  unfold Safe
  rw [List.map_append, List.map_append, List.map_singleton, List.map_singleton, sumRat_concat, sumRat_concat]

theorem good_snoc {os : List XOrder} {o : XOrder} (hg : Good os) (hc : Counted o) (hp : o.price.isSome) : Good (os ++ [o]) := by
  intro x hx
  rcases List.mem_append.mp hx with e | e
  · exact hg x e
  · rw [List.mem_singleton.mp e]; exact ⟨hc, fun _ _ => hp⟩

/-- the arithmetic of an acceptance: `s` the position's exact figure on the new order's losing side, `r` the reported one
    (`e` apart), `x` what the order can lose -/
theorem accept_arith (s r x m e : Rat) (hr : r ≤ s + e) (hacc : -r + x ≤ m) : -(s + -x) ≤ m + e := by
  linarith only [hr, hacc]

/-- a BACK accepted against the selection limit (current worst case on the losing side, as reported,
    plus the stake ≤ limit) leaves the position safe -/
theorem accept_back_safe (m : Rat) (os : List XOrder) (o : XOrder) (price size : Rat) (hs : Safe m os) (hg : Good os)
    (ha : AckBack o price size) (hacc : -(exposuresOf (os.foldl (addOrder none) {})).worstLose + size ≤ m) :
    Safe m (os ++ [o]) ∧ Good (os ++ [o]) := by
  obtain ⟨hk, hsd, hl, hp, hp0, hcp, hm0, hr, hc⟩ := ha
  have hw : cWin o = 0 := by simp [cWin, hk, hsd, hl, hm0]
  have hlose : cLose o = -size := by simp [cLose, hk, hsd, hl, hp, hp0, hcp, hm0, hr]
  rw [safe_snoc, hw, hlose, add_zero]
  exact ⟨⟨hs.1, accept_arith _ _ _ _ _ (reported_vs_contributions os hg).2 hacc⟩, good_snoc hg hc (hp ▸ rfl)⟩

theorem accept_lay_safe (m : Rat) (os : List XOrder) (o : XOrder) (price size : Rat) (hs : Safe m os) (hg : Good os)
    (ha : AckLay o price size) (hacc : -(exposuresOf (os.foldl (addOrder none) {})).worstWin + (price - 1) * size ≤ m) :
    Safe m (os ++ [o]) ∧ Good (os ++ [o]) := by
  obtain ⟨hk, hsd, hl, hp, hp0, hcp, hm0, hr, hc⟩ := ha
  have hw : cWin o = -((price - 1) * size) := by simp [cWin, hk, hsd, hl, hp, hp0, hcp, hm0, hr]
  have hlose : cLose o = 0 := by simp [cLose, hk, hsd, hm0]
  rw [safe_snoc, hw, hlose, add_zero]
  exact ⟨⟨accept_arith _ _ _ _ _ (reported_vs_contributions os hg).1 hacc, hs.2⟩, good_snoc hg hc (hp ▸ rfl)⟩

/-- the positions a strategy can reach on one selection when every order is acknowledged before the
    next decision is taken: accepted BACK / LAY limit orders, and any evolution of the orders at the
    exchange (fills at the limit price or better, cancellations, lapses, completion) -/
inductive Reach (m : Rat) : List XOrder → Prop
  | empty : Reach m []
  | back (os : List XOrder) (o : XOrder) (price size : Rat) : Reach m os → AckBack o price size →
      -(exposuresOf (os.foldl (addOrder none) {})).worstLose + size ≤ m → Reach m (os ++ [o])
  | lay (os : List XOrder) (o : XOrder) (price size : Rat) : Reach m os → AckLay o price size →
      -(exposuresOf (os.foldl (addOrder none) {})).worstWin + (price - 1) * size ≤ m → Reach m (os ++ [o])
  | evolve (os os' : List XOrder) : Reach m os → List.Forall₂ (fun o o' => o' = o ∨ Evolves o o') os os' → Reach m os'

theorem good_evolve (os os' : List XOrder) (hg : Good os) (h : List.Forall₂ (fun o o' => o' = o ∨ Evolves o o') os os') : Good os' := by
  induction h with
  | nil => exact hg
  | @cons a b _ _ hx _ ih =>
    intro o ho
    rcases List.mem_cons.mp ho with rfl | e
    · rcases hx with rfl | e
      · exact hg _ List.mem_cons_self
      · obtain ⟨_, _, _, hkind, hlr, hprice, _⟩ := e.same
        exact ⟨e.counted, fun hk hl => hprice ▸ (hg a List.mem_cons_self).2 (hkind ▸ hk) (hlr ▸ hl)⟩
    · exact ih (fun x hx => hg x (List.mem_cons_of_mem _ hx)) o e

/-- C01 (selection limit, limit orders, acknowledgement discipline): in every reachable position both
    outcomes stay within the configured limit (plus the one-penny rounding slack) -/
theorem reach_safe (m : Rat) (hm : 0 ≤ m) (os : List XOrder) (h : Reach m os) : Safe m os ∧ Good os := by
  induction h with
  | empty =>
    have h0 : -sumRat [] ≤ m + 1 / 100 := neg_zero.trans_le (add_nonneg hm (by norm_num))
    exact ⟨⟨h0, h0⟩, fun o ho => nomatch ho⟩
  | back os o price size _ ha hacc ih => exact accept_back_safe m os o price size ih.1 ih.2 ha hacc
  | lay os o price size _ ha hacc ih => exact accept_lay_safe m os o price size ih.1 ih.2 ha hacc
  | evolve os os' _ hev ih =>
    obtain ⟨m1, m2⟩ := position_monotone os os' hev
    exact ⟨⟨(neg_le_neg m1).trans ih.1.1, (neg_le_neg m2).trans ih.1.2⟩, good_evolve os os' ih.2 hev⟩

/-- and the exact worst case over every combination of open orders filling (C16.1) is that sum: the
    strategy can never lose more than the limit plus a penny on the selection -/
theorem reach_worst_case (m : Rat) (hm : 0 ≤ m) (os : List XOrder) (h : Reach m os) :
    -(exactWin (os.foldl (addOrder none) {})) ≤ m + 1 / 100 ∧ -(exactLose (os.foldl (addOrder none) {})) ≤ m + 1 / 100 := by
  obtain ⟨hs, hg⟩ := reach_safe m hm os h
  rw [(position_exact os hg).1, (position_exact os hg).2]
  exact hs

/-! ### known finding F1: a price replacement is validated with the old price -/

/-- a LAY of 10 at 1.5 rests at the exchange (liability 5, limit 10); the strategy asks to replace its
    price by 1000 (liability 9990).  StrategyExposure sees the order with its current price: accepted. -/
def restingLay : COrder :=
  { x := { id := 0, sel := 1, side := .lay, kind := .limit, lineRange := false, price := some (3/2), status := some .executable,
           complete := false, sizeMatched := 0, avgPrice := 0, sizeRemaining := 10, liability := 0 },
    size := some 10, target := none, betdaq := false, ladder := .classicOrFinest }

theorem replace_checked_at_old_price_witness :
    strategyExposure ⟨some 10, some 100, none⟩ [restingLay.x] 2 1 restingLay .replace true = .ok () := by decide +kernel

/-! ### tie to the transaction: nothing is queued for the exchange unless the controls passed -/

theorem place_queued_only_if_controls_pass (w : World) (t : Txn) (oid : Nat) (v : Option Int)
    (h : (w.txnPlace t oid v true false).2.2 = .accepted) :
    ((w.modifyOrder oid fun o => { o with client := some t.client }).validateControls oid t.client .place).2 = none := by
  rcases txnPlace_outcome w t oid v true false with ⟨r, _, e⟩ | ⟨_, e⟩ | ⟨hn, _⟩
  · rw [e] at h; cases h
  · rw [e] at h; cases h
  · exact hn

/-- a refused new order is marked as a violation and nothing is filed for it -/
theorem refused_place_files_nothing (w : World) (t : Txn) (oid : Nat) (v : Option Int) (r : Refusal)
    (h : (w.txnPlace t oid v true false).2.2 = .refused r) : (w.txnPlace t oid v true false).2.1 = t := by
  rcases txnPlace_outcome w t oid v true false with ⟨r, _, e⟩ | ⟨_, e⟩ | ⟨_, e⟩
  · rw [e]
  · rw [e]
  · rw [e] at h; cases h

/-! ### non-vacuity -/

def ackBack (id : Nat) (p s : Rat) : XOrder :=
  { id := id, sel := 1, side := .back, kind := .limit, lineRange := false, price := some p, status := some .executable,
    complete := false, sizeMatched := 0, avgPrice := 0, sizeRemaining := s, liability := 0 }

theorem ackBack_ack : AckBack (ackBack 0 3 4) 3 4 := by
  refine ⟨rfl, rfl, rfl, rfl, by norm_num, rfl, rfl, rfl, ?_⟩; unfold Counted; decide

example : AckBack (ackBack 0 3 4) 3 4 := ackBack_ack

example : Reach 10 [ackBack 0 3 4] :=
  Reach.back [] (ackBack 0 3 4) 3 4 Reach.empty ackBack_ack (by decide +kernel)

end Flumine.C01
