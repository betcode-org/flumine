/-
  C19 — Order references are unique, valid and round-trip.
  Model: Flumine.Ref (customerOrderRef, isValidSep / setSep, refHash / refId, Strategies.hashes,
  the reference-driven part of process_current_orders).
  Parameters (trusted base): the strategy hash is H lower-case hex characters (SHA-1 hexdigest
  prefix), the order id is the decimal numeral of `uuid1().time`, a natural number below 10^18
  (true until the year 4751) and distinct for distinct orders.
-/
import Flumine.Ref
import Flumine.Lemmas.ListAux
namespace Flumine.C19
open Flumine.Ref

def hexChars : List Char := "0123456789abcdef".toList

/-! ### the accepted character set is the exchange's -/

/-- what the Betfair documentation allows in a customer reference -/
def exchangeAllows (c : Char) : Bool := c.isAlphanum || "-._+*:;~".toList.contains c

/-- the accepted set is exactly the ASCII characters the exchange allows, in code order -/
theorem validChars_eq : validChars = ((List.range 128).map Char.ofNat).filter exchangeAllows := by
  -- to the kernel a string literal is `String.ofList` of its characters: `toList_ofList` yields them without evaluating the
  -- UTF-8 decoder of `String.toList`, which is slow to check; what is evaluated is the right side only
  have h : validChars = _ := String.toList_ofList
  rw [h]
  decide +kernel

theorem validChars_sound : ∀ c ∈ validChars, exchangeAllows c = true := fun c h => by
  rw [validChars_eq] at h; exact (List.mem_filter.mp h).2

theorem ascii_valid (c : Char) (h : c.toNat < 128 ∧ exchangeAllows c = true) : c ∈ validChars := by
  rw [validChars_eq]
  exact List.mem_filter.mpr ⟨List.mem_map.mpr ⟨c.toNat, List.mem_range.mpr h.1, Char.ofNat_toNat c⟩, h.2⟩

theorem hex_valid : ∀ c ∈ hexChars, c ∈ validChars := by
  have h : hexChars = _ := String.toList_ofList
  rw [h]
  exact fun c hc => ascii_valid c ((by decide +kernel : ∀ c ∈ _, c.toNat < 128 ∧ exchangeAllows c = true) c hc)

theorem digit_valid (c : Char) (h : c.isDigit = true) : c ∈ validChars := by
  have h57 : c.val ≤ 57 := of_decide_eq_true (Bool.and_eq_true_iff.mp h).2
  refine ascii_valid c ⟨Nat.lt_of_le_of_lt (UInt32.le_iff_toNat_le.mp h57) (by decide), ?_⟩
  rw [exchangeAllows, Char.isAlphanum, h, Bool.or_true, Bool.true_or]

/-! ### C19.4 separator validation is exact -/

theorem sep_validation_exact (s : List Char) : isValidSep s = true ↔ ∃ c, s = [c] ∧ c ∈ validChars := by
  unfold isValidSep
  match s with
  | [] => simp
  | [c] => simp
  | _ :: _ :: _ => simp

theorem sep_valid_length (s : List Char) (h : isValidSep s = true) : s.length = 1 := by
  obtain ⟨c, rfl, _⟩ := (sep_validation_exact s).mp h; rfl

/-- the setter installs exactly the valid separators and leaves the old one otherwise -/
theorem setSep_spec (cur new : List Char) :
    (isValidSep new = true → setSep cur new = (new, true)) ∧ (isValidSep new = false → setSep cur new = (cur, false)) := by
  unfold setSep
  constructor <;> intro h <;> simp [h]

/-- invariant: whatever sequence of assignments is attempted, the separator stays valid -/
theorem sep_always_valid (cur : List Char) (h : isValidSep cur = true) (news : List (List Char)) :
    isValidSep (news.foldl (fun c n => (setSep c n).1) cur) = true := by
  induction news generalizing cur with
  | nil => exact h
  | cons n ns ih =>
    refine ih (setSep cur n).1 ?_
    cases hv : isValidSep n
    · rw [(setSep_spec cur n).2 hv]
      exact h
    · rw [(setSep_spec cur n).1 hv]
      exact hv

example : isValidSep Gen.orderSep.toList = true :=
  (sep_validation_exact _).mpr ⟨'-', by decide, ascii_valid '-' (by decide)⟩

/-! ### C19.1 / C19.2 length and characters -/

theorem orderId_length (n : Nat) (h : n < 10 ^ 18) : (orderId n).length ≤ 18 :=
  (Nat.length_toDigits_le_iff (by decide) (by decide)).mpr h

theorem orderId_digits (n : Nat) : ∀ c ∈ orderId n, c.isDigit = true :=
  fun _ hc => Nat.isDigit_of_mem_toDigits (by decide) (by decide) hc

/-- the reference never exceeds the exchange's 32 characters, for every strategy name (the hash has
    H characters whatever the name) and every separator the setter accepts -/
theorem ref_length (hash sep : List Char) (n : Nat) (hh : hash.length = H) (hs : isValidSep sep = true) (hn : n < 10 ^ 18) :
    (customerOrderRef hash sep (orderId n)).length ≤ 32 := by
  unfold customerOrderRef
  have h1 := sep_valid_length sep hs
  have h2 := orderId_length n hn
  have h3 : H + 1 + 18 ≤ 32 := by decide
  simp only [List.length_append]
  omega

/-- every character of the reference is one the exchange accepts -/
theorem ref_charset (hash sep : List Char) (n : Nat) (hh : ∀ c ∈ hash, c ∈ hexChars) (hs : isValidSep sep = true) :
    ∀ c ∈ customerOrderRef hash sep (orderId n), c ∈ validChars ∧ exchangeAllows c = true := by
  intro c hc
  have hv : c ∈ validChars := by
    unfold customerOrderRef at hc
    simp only [List.mem_append] at hc
    rcases hc with (h | h) | h
    · exact hex_valid c (hh c h)
    · obtain ⟨d, rfl, hd⟩ := (sep_validation_exact sep).mp hs
      simp only [List.mem_singleton] at h
      exact h ▸ hd
    · exact digit_valid c (orderId_digits n c h)
  exact ⟨hv, validChars_sound c hv⟩

/-! ### C19.3 splitting a reference recovers the strategy hash and the order id -/

theorem split_roundtrip (hash sep id : List Char) (hh : hash.length = H) (hs : sep.length = 1) :
    refHash (customerOrderRef hash sep id) = hash ∧ refId (customerOrderRef hash sep id) = id := by
  unfold refHash refId customerOrderRef
  constructor
  · rw [List.append_assoc, List.take_append_of_le_length (by omega), ← hh, List.take_length]
  · have : H + 1 = (hash ++ sep).length := by simp [hh, hs]
    rw [this, List.drop_left]

/-- with a separator of another length (the setter never lets one in) the fixed-offset split is wrong:
    witness with the empty separator — the first digit of the id is lost -/
theorem empty_sep_breaks_split :
    refId (customerOrderRef "0123456789abc".toList [] (orderId 1234)) = orderId 234 := by decide +kernel

/-- every module that parses a reference carries the same hash length: `flumine/utils.py` (where references are built),
    `order/process.py` (order stream), `markets/blotter.py` (cleared orders) and `strategy/strategy.py` (the hash itself);
    the constants are regenerated from the source on every run, so this is re-checked against what the code says now -/
theorem hash_lengths_agree :
    Gen.blotterHashLength = H ∧ Gen.processHashLength = H ∧ Gen.strategyModHashLength = H := by decide

/-- the cleared-orders path (`Blotter.process_cleared_orders`, live only): `customer_order_ref[STRATEGY_NAME_HASH_LENGTH + 1:]`
    with the blotter module's constant recovers the order id, whatever single-character separator the order was created with -/
theorem cleared_order_ref_recovers_id (hash sep id : List Char) (hh : hash.length = H) (hs : sep.length = 1) :
    (customerOrderRef hash sep id).drop (Gen.blotterHashLength + 1) = id := by
  rw [hash_lengths_agree.1]
  exact (split_roundtrip hash sep id hh hs).2

/-- ... so a cleared order is attached to exactly the order of that market that carries the id the reference was built from -/
theorem cleared_attaches_to_its_order (i : Inst) (market : Nat) (hash sep id : List Char) (hh : hash.length = H) (hs : sep.length = 1) :
    processCleared i market (customerOrderRef hash sep id) = getOrder i market id := by
  unfold processCleared
  rw [cleared_order_ref_recovers_id hash sep id hh hs]

/-! ### the bet-id step after the lookup by reference: an update is never attributed to another bet's order -/

/-- whichever order the update goes to, it is the order found by reference only if that order has no bet id yet or carries the
    update's bet id, and otherwise an order that carries the update's bet id: never an order of another bet -/
theorem update_never_misattributed (byRefBet : Option Nat) (bet : Nat) (known : List Nat) :
    (pickByBet byRefBet bet known = some none → byRefBet = none ∨ byRefBet = some bet) ∧
    (∀ b, pickByBet byRefBet bet known = some (some b) → b = bet ∧ bet ∈ known) := by
  unfold pickByBet
  cases byRefBet with
  | none => exact ⟨fun _ => .inl rfl, nofun⟩
  | some r =>
    dsimp only
    by_cases e : r = bet
    · rw [if_neg (not_not_intro e), e]
      exact ⟨fun _ => .inr rfl, nofun⟩
    · rw [if_pos e]
      by_cases hk : known.contains bet = true
      · rw [if_pos hk]
        exact ⟨nofun, fun b h => ⟨(Option.some.inj (Option.some.inj h)).symm, List.contains_iff_mem.mp hk⟩⟩
      · rw [if_neg hk]
        exact ⟨nofun, nofun⟩

/-- known finding F20 in the model: the update of a bet that replaced another one (known reference, other bet id) is skipped as
    long as no local order carries its bet id - and being skipped changes nothing, so it is skipped at every later snapshot too -/
theorem replaced_bet_unknown_is_skipped (b1 bet : Nat) (known : List Nat) (hne : b1 ≠ bet) (hk : bet ∉ known) :
    pickByBet (some b1) bet known = none := by
  unfold pickByBet
  simp [hne, hk]

example : pickByBet (some 501) 502 [501] = none ∧ pickByBet (some 501) 502 [501, 502] = some (some 502) ∧
    pickByBet (some 501) 501 [501] = some none ∧ pickByBet none 7 [] = some none := by decide

/-- splitting at the default separator instead (the seeded change C19-m7) loses every order created with another
    separator: the reference holds no `-`, so the "last part" is the whole reference -/
example : ("0123456789abc.1234".toList.splitOn '-').getLast? = some "0123456789abc.1234".toList := by decide +kernel

/-! ### uniqueness -/

theorem orderId_injective (n m : Nat) (h : orderId n = orderId m) : n = m := by
  have := congrArg (fun l => Nat.ofDigitChars 10 l 0) h
  simpa [orderId, Nat.ofDigitChars_ten_toDigits] using this

/-- distinct orders (distinct uuid1 times) carry distinct references, whatever their strategies and separators -/
theorem refs_unique (h1 h2 s1 s2 : List Char) (n m : Nat) (hh1 : h1.length = H) (hh2 : h2.length = H)
    (hs1 : s1.length = 1) (hs2 : s2.length = 1) (hne : n ≠ m) :
    customerOrderRef h1 s1 (orderId n) ≠ customerOrderRef h2 s2 (orderId m) := by
  intro e
  have a := (split_roundtrip h1 s1 (orderId n) hh1 hs1).2
  have b := (split_roundtrip h2 s2 (orderId m) hh2 hs2).2
  rw [e, b] at a
  exact hne (orderId_injective n m a.symm)

/-! ### C19.5 attribution by a receiving instance -/

theorem hashesGet_spec (ss : List Strat) (s : Strat) (hmem : s ∈ ss)
    (hd : ∀ a ∈ ss, ∀ b ∈ ss, a.hash = b.hash → a = b) : hashesGet ss s.hash = some s.idx := by
  unfold hashesGet
  rcases find?_key Strat.hash ss.reverse s.hash with ⟨t, ht, e, hf⟩ | ⟨hn, _⟩
  · rw [hf, hd t (List.mem_reverse.mp ht) s hmem e]; rfl
  · exact absurd (List.mem_map_of_mem (List.mem_reverse.mpr hmem)) hn

theorem hashesGet_none (ss : List Strat) (h : List Char) (hn : ∀ s ∈ ss, s.hash ≠ h) : hashesGet ss h = none := by
  unfold hashesGet
  rcases find?_key Strat.hash ss.reverse h with ⟨t, ht, e, _⟩ | ⟨_, hf⟩
  · exact absurd e (hn t (List.mem_reverse.mp ht))
  · rw [hf]; rfl

theorem processCurrent_known {i : Inst} {market : Nat} {ref : List Char} {o : KnownOrder} (h : getOrder i market (refId ref) = some o) :
    processCurrent i market ref = (i, .existing o) := by
  unfold processCurrent
  simp only [h]

theorem processCurrent_dropped {i : Inst} {market : Nat} {ref : List Char} (h : getOrder i market (refId ref) = none)
    (hs : hashesGet i.strategies (refHash ref) = none) : processCurrent i market ref = (i, .dropped) := by
  unfold processCurrent
  simp only [h, hs]

theorem processCurrent_created {i : Inst} {market : Nat} {ref : List Char} {s : Nat} (h : getOrder i market (refId ref) = none)
    (hs : hashesGet i.strategies (refHash ref) = some s) :
    processCurrent i market ref = ({ i with orders := i.orders ++ [⟨market, refId ref, s⟩] }, .created ⟨market, refId ref, s⟩) := by
  unfold processCurrent
  simp only [h, hs]

/-- whatever the receiving instance resolves a reference to carries exactly the id the reference was
    built with, in the market of the update: an update is never attributed to another order -/
theorem resolved_id_exact (i : Inst) (market : Nat) (hash sep id : List Char) (hh : hash.length = H) (hs : sep.length = 1) :
    match (processCurrent i market (customerOrderRef hash sep id)).2 with
    | .existing o => o.id = id ∧ o.market = market ∧ o ∈ i.orders
    | .created o => o.id = id ∧ o.market = market
    | .dropped => True := by
  have hid := (split_roundtrip hash sep id hh hs).2
  cases hg : getOrder i market (refId (customerOrderRef hash sep id)) with
  | some o =>
    rw [processCurrent_known hg]
    have hp := of_decide_eq_true (List.find?_some hg :)
    exact ⟨hp.2.trans hid, hp.1, List.mem_of_find?_eq_some hg⟩
  | none =>
    cases hc : hashesGet i.strategies (refHash (customerOrderRef hash sep id)) with
    | none =>
      rw [processCurrent_dropped hg hc]
      trivial
    | some s =>
      rw [processCurrent_created hg hc]
      exact ⟨hid, rfl⟩

/-- an order unknown to the instance is created under the strategy that produced the reference,
    provided that strategy is registered and registered hashes are pairwise distinct -/
theorem attribution_created (i : Inst) (market : Nat) (s : Strat) (sep id : List Char)
    (hmem : s ∈ i.strategies) (hd : ∀ a ∈ i.strategies, ∀ b ∈ i.strategies, a.hash = b.hash → a = b)
    (hh : s.hash.length = H) (hs : sep.length = 1) (hun : getOrder i market id = none) :
    (processCurrent i market (customerOrderRef s.hash sep id)).2 = .created { market := market, id := id, strat := s.idx } := by
  have hsp := split_roundtrip s.hash sep id hh hs
  rw [processCurrent_created (hsp.2.symm ▸ hun) (hsp.1.symm ▸ hashesGet_spec i.strategies s hmem hd), hsp.2]

/-- a reference of a strategy that is not registered is dropped, never given to another strategy -/
theorem unknown_strategy_dropped (i : Inst) (market : Nat) (hash sep id : List Char)
    (hh : hash.length = H) (hs : sep.length = 1) (hun : getOrder i market id = none)
    (hn : ∀ s ∈ i.strategies, s.hash ≠ hash) :
    (processCurrent i market (customerOrderRef hash sep id)).2 = .dropped ∧
    (processCurrent i market (customerOrderRef hash sep id)).1 = i := by
  have hsp := split_roundtrip hash sep id hh hs
  rw [processCurrent_dropped (hsp.2.symm ▸ hun) (hsp.1.symm ▸ hashesGet_none i.strategies hash hn)]
  exact ⟨rfl, rfl⟩

theorem created_is_known (i : Inst) (market : Nat) (ref : List Char) (o : KnownOrder)
    (h : (processCurrent i market ref).2 = .created o) : getOrder (processCurrent i market ref).1 market (refId ref) = some o := by
  cases hg : getOrder i market (refId ref) with
  | some x =>
    rw [processCurrent_known hg] at h
    cases h
  | none =>
    cases hc : hashesGet i.strategies (refHash ref) with
    | none =>
      rw [processCurrent_dropped hg hc] at h
      cases h
    | some s =>
      rw [processCurrent_created hg hc] at h ⊢
      cases h
      unfold getOrder at hg ⊢
      rw [List.find?_append, hg]
      simp

/-- once created (or known) the order is found again by every later update with the same reference -/
theorem second_update_finds_it (i : Inst) (market : Nat) (ref : List Char) (o : KnownOrder)
    (h : (processCurrent i market ref).2 = .created o) :
    (processCurrent (processCurrent i market ref).1 market ref).2 = .existing o := by
  rw [processCurrent_known (created_is_known i market ref o h)]

/-- the order an order-stream update created is the one a later cleared order with the same reference is attached to -/
theorem cleared_after_update_finds_it (i : Inst) (market : Nat) (ref : List Char) (o : KnownOrder)
    (h : (processCurrent i market ref).2 = .created o) :
    processCleared (processCurrent i market ref).1 market ref = some o := by
  unfold processCleared
  rw [hash_lengths_agree.1]
  exact created_is_known i market ref o h

/-- registering a further strategy takes effect for the next update (the table is not cached) -/
theorem added_strategy_is_seen (i : Inst) (h : List Char)
    (hn : ∀ s ∈ i.strategies, s.hash ≠ h) : hashesGet (addStrategy i h).strategies h = some i.strategies.length := by
  unfold hashesGet addStrategy
  simp

example : run [.add "0123456789abc".toList, .update 1 (customerOrderRef "0123456789abc".toList ['-'] (orderId 42)),
               .update 1 (customerOrderRef "0123456789abc".toList ['-'] (orderId 42)),
               .update 1 (customerOrderRef "fffffffffffff".toList ['-'] (orderId 43)),
               .add "fffffffffffff".toList,
               .update 1 (customerOrderRef "fffffffffffff".toList ['-'] (orderId 43))]
    = [.resolved (.created ⟨1, orderId 42, 0⟩), .resolved (.existing ⟨1, orderId 42, 0⟩), .resolved .dropped,
       .resolved (.created ⟨1, orderId 43, 1⟩)] := by decide +kernel

/-- cleared orders: attached to the order created with a non-default separator; nothing for an order the instance never saw -/
example : run [.add "0123456789abc".toList, .update 1 (customerOrderRef "0123456789abc".toList ['.'] (orderId 42)),
               .cleared 1 (customerOrderRef "0123456789abc".toList ['.'] (orderId 42)),
               .cleared 1 (customerOrderRef "0123456789abc".toList ['.'] (orderId 43))]
    = [.resolved (.created ⟨1, orderId 42, 0⟩), .attached (some ⟨1, orderId 42, 0⟩), .attached none] := by decide +kernel

end Flumine.C19
