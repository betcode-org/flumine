/-
  C07 — Simulated latency and bet delay: no look-ahead and no free speed.
  Model: SimExec.checkPendingPackages (`_check_pending_packages`), Txn.createPackages
  (`_create_order_package` + `calc_simulated_delay`), SimLoop.processMarketBook (ordering of the
  steps of `_process_market_books`), Mw.isMwLive (which orders the matching sees).
-/
import Flumine.SimLoop
import Flumine.Lemmas.Inv
import Flumine.Lemmas.Shape
import Mathlib.Tactic.Linarith
namespace Flumine.C07
open Flumine.World

/-- the packages `_check_pending_packages(market_id)` hands to the execution handler: exactly those of
    this market whose age is strictly MORE than their delay, in queue order -/
def duePackages (w : World) (mid : Nat) : List Package :=
  w.queue.filter fun p => decide (p.market = mid ∧ p.delay < elapsedSeconds w.clock p.created)

theorem checkPending_eq (w : World) (mid : Nat) :
    w.checkPendingPackages mid =
      { (duePackages w mid).foldl (fun w p => w.executePackage p) w with
        queue := ((duePackages w mid).foldl (fun w p => w.executePackage p) w).queue.filter
          fun p => !((duePackages w mid).any (·.id = p.id)) } := by
  unfold checkPendingPackages duePackages
  rfl

/-- C07.1 a package is executed at this update **iff** it is of this market and the update is MORE than its delay after
    the request -/
theorem executed_iff_due (w : World) (mid : Nat) (p : Package) :
    p ∈ duePackages w mid ↔ (p ∈ w.queue ∧ p.market = mid ∧ p.delay < elapsedSeconds w.clock p.created) := by
  unfold duePackages
  rw [List.mem_filter, decide_eq_true_iff]

theorem not_due_at_boundary (w : World) (mid : Nat) (p : Package)
    (h : elapsedSeconds w.clock p.created = p.delay) : p ∉ duePackages w mid := by
  rw [executed_iff_due]
  intro ⟨_, _, hlt⟩
  rw [h] at hlt
  exact lt_irrefl _ hlt

theorem other_market_never_due (w : World) (mid : Nat) (p : Package) (h : p.market ≠ mid) :
    p ∉ duePackages w mid := by
  rw [executed_iff_due]; intro ⟨_, hm, _⟩; exact h hm

/-- elapsed time in seconds between two millisecond publish times -/
theorem elapsed_def (now created : Time) : elapsedSeconds now created = ((now - created : Int) : Rat) / 1000 := rfl

/-- C07.1/4 every package created by a transaction carries the request time (the clock) as its
    creation time and, as its delay, the latency of its kind plus — for placements and replacements
    only — the bet delay of the market's book current at request time -/
theorem created_package (w : World) (t : Txn) (pend : List (Nat × Option Int)) (kind : PackKind) :
    ∀ p ∈ (w.createPackages t pend kind).queue, p ∈ w.queue ∨
      (p.created = w.clock ∧ p.kind = kind ∧ p.market = t.market ∧
       p.delay = delayOf w.cfg kind (((w.market! t.market).book).getD {}).betDelay) := by
  rw [createPackages_eq]
  intro p hp
  refine (List.mem_append.mp hp).imp_right fun h => ?_
  have := List.mem_map_of_mem (f := fun p : Package => (p.kind, p.market, p.client, p.marketVersion, p.orders, p.created, p.delay)) h
  rw [newPackages_map] at this
  obtain ⟨vc, _, e⟩ := List.mem_map.mp this
  simp only [Prod.mk.injEq] at e
  exact ⟨e.2.2.2.2.2.1.symm, e.1.symm, e.2.1.symm, e.2.2.2.2.2.2.symm⟩

theorem delay_place_replace (cfg : Config) (bd : Rat) :
    delayOf cfg .place bd = cfg.placeLatency + bd ∧ delayOf cfg .replace bd = cfg.replaceLatency + bd ∧
    delayOf cfg .cancel bd = cfg.cancelLatency ∧ delayOf cfg .update bd = cfg.updateLatency := ⟨rfl, rfl, rfl, rfl⟩

/-- C07.2/5 order of the steps of one update: the clock is set to the publish time first, the due
    packages are executed next — *before* the market object receives the new book, so the handlers
    read the book that prevailed immediately before this update — and only then is the book installed,
    the middleware run, the orders completed and the strategies called. -/
theorem update_order_of_steps (w : World) (mid : Nat) (book : Book) (script : Nat → List Action)
    (hq : w.queue ≠ []) (hopen : book.status ≠ .closed) :
    ∃ cont : World → World × List (Nat × List String),
      w.processMarketBook mid book script = cont (({ w with clock := book.pt } : World).checkPendingPackages mid) ∧
      (({ w with clock := book.pt } : World).market? mid = w.market? mid) := by
  refine ⟨fun w1 =>
    let isNew := (w1.market? mid).isNone
    let w2 := if isNew then (({ w1 with markets := w1.markets ++ [({ id := mid, book := some book } : Market)] } : World).emit (.marketEvent mid))
             else if (w1.market! mid).closed then w1.modifyMarket mid fun m => { m with closed := false }
             else w1
    let w3 := w2.modifyMarket mid fun m => { m with book := some book }
    let w4 := w3.simulatedMiddleware mid
    let w5 := if (w4.market! mid).active then w4.processSimulatedOrders mid else w4
    w5.strategies.foldl (fun (acc : World × List (Nat × List String)) s =>
      let (w, outs) := acc
      if s.streams.contains book.streamId then
        let w := if isNew then w.emit (.newMarket s.id mid) else w
        let w := w.emit (.bookCallback s.id mid book.pt)
        let (w, rs) := w.doActions mid (script s.id)
        (w, outs ++ [(s.id, rs)])
      else (w, outs)) (w5, []), ?_, rfl⟩
  unfold processMarketBook setClock
  have hne : (({ w with clock := book.pt } : World).queue.isEmpty) = false := by
    cases hw : w.queue with
    | nil => exact absurd hw hq
    | cons _ _ => simp
  simp only [hne, Bool.false_eq_true, if_false, hopen]

/-- C07.5 the clock during an update is its publish time -/
theorem clock_is_publish_time (w : World) (pt : Time) : (w.setClock pt).clock = pt := rfl

/-- C07.3 which orders the simulated matching touches -/
theorem pending_not_matched (o : Order) (h : o.status = some .pending) : isMwLive o = false := by
  unfold isMwLive; rw [h]; decide

theorem in_flight_matched_as_executable (o : Order)
    (h : o.status = some .cancelling ∨ o.status = some .updating ∨ o.status = some .replacing ∨ o.status = some .executable) :
    isMwLive o = true := by
  unfold isMwLive
  rcases h with h | h | h | h <;> rw [h] <;> decide

/-- non-vacuity: a package requested at t = 1000 ms with delay 0.12 s is not due at 1120 ms and is due at 1121 ms -/
def samplePkg : Package := { id := 0, kind := .place, market := 1, orders := [0], created := 1000, delay := 12 / 100, client := 0 }
example : (duePackages { clock := 1120, queue := [samplePkg] } 1).length = 0 ∧
          (duePackages { clock := 1121, queue := [samplePkg] } 1).length = 1 := by
  decide +kernel


/-! ### the queue in every reachable state -/

/-- whatever the history - any sequence of updates, any scripted requests, batched or not - every package
    waiting in the simulation's queue refers only to orders that exist: the delayed execution of a package
    (`executePackage`, whose handlers look their orders up by id) never acts on a phantom order -/
theorem queued_packages_refer_to_orders (cfg : Config) (cl : List Client) (ss : List Strategy)
    (us : List (Nat × Book × (Nat → List Action))) :
    ∀ p ∈ (Inv.runUpdates { cfg := cfg, clients := cl, strategies := ss } us).queue,
      ∀ oid ∈ (Inv.runUpdates { cfg := cfg, clients := cl, strategies := ss } us).packageOrders p,
        OL.HasOrder (Inv.runUpdates { cfg := cfg, clients := cl, strategies := ss } us) oid := by
  intro p hp oid ho
  have h := (Inv.inv_reachable cfg cl ss us).queue p hp oid (List.mem_filter.mp ho).1
  exact (Ids.hasOrder_iff _ oid).mpr h

end Flumine.C07
