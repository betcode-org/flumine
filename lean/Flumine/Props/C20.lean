/-
  C20 — Market closure is processed once, with results, for the right strategies.
  Model: SimLoop.processCloseMarket (`_process_close_market`), closeCallbacks, clearedEvents,
  blotterProcessClosed (`Blotter.process_closed_market`), processMarketBook (CLOSED is handled before
  the market is created in the simulation path).
-/
import Flumine.SimLoop
import Flumine.Lemmas.SimLemmas
import Flumine.Lemmas.Closed
import Mathlib.Data.List.Nodup
namespace Flumine.C20
open Flumine.World

/-! ### C20.2 the closed-market callback -/

def Subscribed (s : Strategy) (book : Book) : Prop := s.streams.contains book.streamId = true ∨ s.emptyFilter = true

/-- C20.2 the callbacks of a closing update are exactly: one per subscribed (or empty-filter)
    strategy, with that book's publish time, in registration order — nobody else is called -/
theorem callbacks_exact (w : World) (mid : Nat) (book : Book) :
    w.closeCallbacks mid book =
      (w.strategies.filter fun s => s.streams.contains book.streamId || s.emptyFilter).map
        fun s => Ev.closedCallback s.id mid book.pt := rfl

theorem callback_for_subscribed (w : World) (mid : Nat) (book : Book) (s : Strategy) (hs : s ∈ w.strategies)
    (hsub : Subscribed s book) : Ev.closedCallback s.id mid book.pt ∈ w.closeCallbacks mid book :=
  List.mem_map.mpr ⟨s, List.mem_filter.mpr ⟨hs, Bool.or_eq_true_iff.mpr hsub⟩, rfl⟩

theorem no_callback_for_others (w : World) (mid : Nat) (book : Book) (sid : Nat) (pt : Time)
    (h : ∀ s ∈ w.strategies, s.id = sid → ¬ Subscribed s book) :
    Ev.closedCallback sid mid pt ∉ w.closeCallbacks mid book := by
  intro hm
  obtain ⟨s, hs, he⟩ := List.mem_map.mp hm
  obtain ⟨hs1, hs2⟩ := List.mem_filter.mp hs
  exact h s hs1 (by injection he) (Bool.or_eq_true_iff.mp hs2)

/-- exactly once: with distinct strategy ids the callback of a subscribed strategy occurs once -/
theorem callback_once (w : World) (mid : Nat) (book : Book) (hnd : (w.strategies.map (·.id)).Nodup) :
    (w.closeCallbacks mid book).Nodup := by
  unfold closeCallbacks
  -- an injective image of the ids of the strategies selected
  show (List.map ((fun i => Ev.closedCallback i mid book.pt) ∘ Strategy.id) _).Nodup
  rw [← List.map_map]
  exact (hnd.sublist (List.filter_sublist.map _)).map fun a b hab => by injection hab

/-! ### C20.3 simulated cleared events -/

/-- exactly one cleared-orders meta event iff the market has any order, then exactly one
    cleared-market summary per client in client order -/
theorem cleared_events_shape (w : World) (mid : Nat) :
    w.clearedEvents mid =
      (if (w.market! mid).blotter.length ≠ 0 then [Ev.clearedOrders mid (w.market! mid).blotter.length] else []) ++
      w.clients.map fun c => Ev.clearedMarket mid c.id (w.marketCleared mid c.id).1 (w.marketCleared mid c.id).2.1
        (w.marketCleared mid c.id).2.2 := rfl

theorem cleared_market_count (w : World) (mid : Nat) :
    ((w.clearedEvents mid).filter fun e => match e with | .clearedMarket .. => true | _ => false).length = w.clients.length := by
  rw [cleared_events_shape, List.filter_append, List.length_append, List.filter_map, List.length_map]
  -- the meta event is not a summary; every entry of the client part is one
  refine (congrArg₂ (· + ·) ?_ (congrArg List.length (List.filter_eq_self.mpr fun _ _ => rfl))).trans (Nat.zero_add _)
  split <;> rfl

/-- the summary never charges commission on a net loss: commission = round2(max(profit × rate, 0)) ≥ 0,
    and it is 0 whenever profit × rate ≤ 0 -/
theorem commission_nonneg (w : World) (mid cid : Nat) : 0 ≤ (w.marketCleared mid cid).2.1 :=
  round2_nonneg (le_ratMax_right _ _)

theorem commission_zero_on_loss (w : World) (mid cid : Nat)
    (h : (w.marketCleared mid cid).1 * (w.client! cid).commission ≤ 0) : (w.marketCleared mid cid).2.1 = 0 := by
  show round2 (ratMax ((w.marketCleared mid cid).1 * (w.client! cid).commission) 0) = 0
  rw [ratMax_eq_right h]; exact round2_zero

/-! ### close of a market never seen open (known finding F12) and of a known market -/

/-- the simulation path for a CLOSED update of a market that was never seen open: only a warning —
    no market is created, no strategy is called, nothing is cleared.  (The live path creates the market
    first.)  This is the witness that the full statement "each subscribed strategy's callback is invoked
    once for each closing update received" fails for this case on the code as it stands. -/
theorem close_unknown_market_witness (w : World) (mid : Nat) (book : Book) (h : w.market? mid = none) :
    w.processCloseMarket mid book = w.emit (.warnNoMarket mid) :=
  processCloseMarket_none w mid book h

/-- close of a known market: the events of one closing update are, in this order: the
    callbacks (exactly the subscribed strategies, once each), the cleared-orders event (iff the market
    has orders) and one cleared-market summary per client, then the close event -/
theorem close_known_market_events (w : World) (mid : Nat) (book : Book) (m : Market) (h : w.market? mid = some m) :
    (w.processCloseMarket mid book).out =
      w.out ++ (preClose w mid book m).closeCallbacks mid book ++ (preClose w mid book m).clearedEvents mid ++
        [Ev.closeEvent mid] := by
  -- copying the results to the orders emits nothing (the footprint of `blotterProcessClosed` holds no write to `out`)
  rw [← (eff_preClose w mid book m).out, processCloseMarket_some w mid book m h]
  rfl

/-- C20.4 a known market is closed after its closing update and loses its middleware analytics;
    C20.5 no runner context of that market remains in any strategy -/
theorem release_contexts (w : World) (mid : Nat) (book : Book) (m : Market) (h : w.market? mid = some m) :
    ∀ c ∈ (w.processCloseMarket mid book).ctxs, c.key.market ≠ mid := by
  rw [processCloseMarket_some w mid book m h]
  intro c hc
  simpa using (List.mem_filter.mp hc).2

/-- C20.6 a simulation never deletes a market: closing keeps the market list's ids -/
theorem simulation_keeps_markets (w : World) (mid : Nat) (f : Market → Market) (hf : ∀ m, (f m).id = m.id) :
    (w.modifyMarket mid f).markets.map (·.id) = w.markets.map (·.id) :=
  map_map_of_keeps _ _ _ fun m => by split <;> simp [hf]


/-! ### C20 for whole runs: "exactly once for each closing update received" (`Lemmas/Closed.lean`) -/

open Flumine.Closed Flumine.Inv in
/-- C20 whole-run: take ANY run - any sequence of updates of any markets in any interleaving (repeated closes, close then
    re-open, closes of markets never seen open), any scripted behaviour of any strategies, packages, matching, removals.  The
    `process_closed_market` callbacks observed in the whole run, in order, and the markets the framework knows at the end, are
    exactly what this specification computes from the updates alone: a closing update of a market seen before appends one
    callback per strategy subscribed to the book's stream (or with an empty filter), in registration order, with that book's
    publish time; a closing update of a market never seen appends nothing; any other update appends nothing and makes the
    market known.  Nothing the strategies do, and no other part of the framework, adds, drops, duplicates or reorders a
    closed-market callback. -/
theorem closed_callbacks_whole_run (cfg : Config) (cl : List Client) (ss : List Strategy)
    (us : List (Nat × Book × (Nat → List Action))) :
    ((runUpdates { cfg := cfg, clients := cl, strategies := ss } us).mids, (runUpdates { cfg := cfg, clients := cl, strategies := ss } us).cc) =
      us.foldl (specStep ss) ([], []) :=
  runUpdates_spec { cfg := cfg, clients := cl, strategies := ss } us

open Flumine.Closed Flumine.Inv in
/-- the same from any reachable state on: what a continuation adds depends on the markets known and the updates only -/
theorem closed_callbacks_continuation (w : World) (us : List (Nat × Book × (Nat → List Action))) :
    ((runUpdates w us).mids, (runUpdates w us).cc) = us.foldl (specStep w.strategies) (w.mids, w.cc) :=
  runUpdates_spec w us

open Flumine.Closed in
/-- what one closing update of a known market owes (`callbacksFor`) is `closeCallbacks`: exactly the subscribed strategies
    (`callback_for_subscribed`, `no_callback_for_others`), each once when strategy ids are distinct (`callback_once`) -/
theorem callbacksFor_is_closeCallbacks (w : World) (mid : Nat) (book : Book) :
    callbacksFor w.strategies mid book = w.closeCallbacks mid book := rfl

open Flumine.Closed in
/-- one closing update: callbacks appended iff the market is known; the known markets do not change -/
theorem specStep_closed (ss : List Strategy) (K : List Nat) (evs : List Ev) (mid : Nat) (book : Book) (sc : Nat → List Action)
    (h : book.status = .closed) :
    specStep ss (K, evs) (mid, book, sc) = (K, evs ++ (if mid ∈ K then callbacksFor ss mid book else [])) := by
  unfold specStep; simp [h]

open Flumine.Closed in
/-- any other update: no callback; the market is known afterwards -/
theorem specStep_open (ss : List Strategy) (K : List Nat) (evs : List Ev) (mid : Nat) (book : Book) (sc : Nat → List Action)
    (h : book.status ≠ .closed) :
    (specStep ss (K, evs) (mid, book, sc)).2 = evs ∧ mid ∈ (specStep ss (K, evs) (mid, book, sc)).1 := by
  unfold specStep
  simp only [h, if_false]
  refine ⟨trivial, ?_⟩
  split
  · assumption
  · simp

/-- non-vacuity: three strategies (one subscribed to stream 0, one with an empty filter, one subscribed elsewhere); market 1 opens,
    closes, closes again (amended result), re-opens and closes; market 2 closes without ever having been seen: three closing
    updates of market 1 give 3 x 2 callbacks in registration order, market 2 gives none -/
def nvSs : List Strategy := [{ id := 0, streams := [0] }, { id := 1, streams := [7] }, { id := 2, emptyFilter := true }]
def nvB (pt : Int) (st : MStatus) : Book := { pt := pt, status := st, activeRunners := 1, runners := [{ sel := 1 }] }
def nvUs : List (Nat × Book × (Nat → List Action)) :=
  [(1, nvB 1000 .open_, fun _ => []), (1, nvB 2000 .closed, fun _ => []), (1, nvB 2500 .closed, fun _ => []),
   (2, nvB 2600 .closed, fun _ => []), (1, nvB 3000 .open_, fun _ => []), (1, nvB 4000 .closed, fun _ => [])]
example : (Inv.runUpdates { strategies := nvSs } nvUs).cc =
    [.closedCallback 0 1 2000, .closedCallback 2 1 2000, .closedCallback 0 1 2500, .closedCallback 2 1 2500,
     .closedCallback 0 1 4000, .closedCallback 2 1 4000] ∧ (Inv.runUpdates { strategies := nvSs } nvUs).mids = [1] := by decide +kernel

end Flumine.C20
