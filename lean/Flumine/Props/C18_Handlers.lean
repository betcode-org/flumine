/-
  C18 (companion) — the simulated execution handlers and the client's transaction control, in the world model:
  what each handler adds to the counters of the package's client, and that it adds nothing to anybody else's.
  Frame: the footprints of the handler loops (`Lemmas/Eff.lean`: no per-order step of a handler writes the client table).
-/
import Flumine.Lemmas.Eff
import Flumine.Props.C18
namespace Flumine.C18H
open Flumine.World

/-- the MaxTransactionCount control of client `cid` -/
def cnt (w : World) (cid : Nat) : TxnCounter := (w.client! cid).counter

/-- from w to w' the control of client `cid` went through `g`, and no other client's record changed -/
def Bills (cid : Nat) (g : TxnCounter → TxnCounter) (w w' : World) : Prop :=
  (w.client? cid).isSome = true →
    cnt w' cid = g (cnt w cid) ∧ (w'.client? cid).isSome = true ∧ ∀ other, other ≠ cid → w'.client? other = w.client? other

theorem Bills.of_clients {cid : Nat} {w w' : World} (h : w'.clients = w.clients) : Bills cid id w w' := fun hs => by
  unfold cnt client! client?; rw [h]; exact ⟨rfl, hs, fun _ _ => rfl⟩

theorem Bills.trans {cid : Nat} {g1 g2 : TxnCounter → TxnCounter} {a b c : World} (h1 : Bills cid g1 a b) (h2 : Bills cid g2 b c) :
    Bills cid (g2 ∘ g1) a c := fun hs => by
  obtain ⟨e1, s1, o1⟩ := h1 hs
  obtain ⟨e2, s2, o2⟩ := h2 s1
  exact ⟨by rw [e2, e1]; rfl, s2, fun x hx => (o2 x hx).trans (o1 x hx)⟩

theorem bills_addTransaction (w : World) (cid n : Nat) (f : Bool) : Bills cid (·.add n f) w (w.addTransaction cid n f) := fun hs =>
  ⟨C18.addTransaction_exact w cid n f hs,
    by unfold addTransaction; rw [client?_setClient, Option.isSome_map]; exact hs,
    fun other hne => C18.addTransaction_other w cid other n f hs hne⟩

/-- `if failed: client.add_transaction(failed, failed=True)` -/
theorem bills_failed (w : World) (cid failed : Nat) :
    Bills cid (·.add failed true) w (if failed ≠ 0 then w.addTransaction cid failed true else w) := by
  split
  · exact bills_addTransaction w cid failed true
  · rename_i hz
    rw [show failed = 0 by simpa using hz]
    exact Bills.of_clients rfl

/-! ### what each handler bills: the loop writes no client record (its footprint), then the counts are added -/

theorem bills_executePlace (w : World) (p : Package) :
    Bills p.client (·.add ((((w.packageOrders p).foldl (placeStep p) w).packageOrders p).length) false) w (w.executePlace p) :=
  (Bills.of_clients (eff_placeLoop w p (w.packageOrders p)).clients).trans (bills_addTransaction _ p.client _ false)

theorem bills_executeCancel (w : World) (p : Package) :
    Bills p.client (·.add ((w.packageOrders p).foldl (cancelStep p) (w, 0)).2 true) w (w.executeCancel p) :=
  (Bills.of_clients (eff_cancelLoop p (w.packageOrders p) (w, 0)).clients).trans (bills_failed _ p.client _)

theorem bills_executeUpdate (w : World) (p : Package) :
    Bills p.client (·.add ((w.packageOrders p).foldl (updateStep p) (w, 0)).2 true) w (w.executeUpdate p) :=
  (Bills.of_clients (eff_updateLoop p (w.packageOrders p) (w, 0)).clients).trans (bills_failed _ p.client _)

/-- C18.1, PLACE: `execute_place` adds to the client of the package exactly the number of orders of the package
    (`len(order_package)`: the orders not refused meanwhile) to the submitted-bets counters, total and hourly, and no failure -/
theorem executePlace_counts (w : World) (p : Package) (h : (w.client? p.client).isSome = true) :
    cnt (w.executePlace p) p.client =
      (cnt w p.client).add ((((w.packageOrders p).foldl (placeStep p) w).packageOrders p).length) false :=
  (bills_executePlace w p h).1

theorem foldl_failed_le {α} (f : World × Nat → α → World × Nat) (hf : ∀ acc a, (f acc a).2 ≤ acc.2 + 1) (l : List α) (acc : World × Nat) :
    (l.foldl f acc).2 ≤ acc.2 + l.length := by
  induction l generalizing acc with
  | nil => simp
  | cons a as ih =>
    rw [List.foldl_cons, List.length_cons]
    have := ih (f acc a)
    have := hf acc a
    omega

theorem cancelStep_failed (p : Package) (acc : World × Nat) (oid : Nat) : (cancelStep p acc oid).2 ≤ acc.2 + 1 := by
  obtain ⟨w, failed⟩ := acc
  unfold cancelStep
  simp only
  generalize (w.order! oid).sim.cancel _ _ = cr
  cases cr.2.status
  · simp only; split <;> exact Nat.le_succ _
  · exact Nat.le_refl _

theorem updateStep_failed (p : Package) (acc : World × Nat) (oid : Nat) : (updateStep p acc oid).2 ≤ acc.2 + 1 := by
  obtain ⟨w, failed⟩ := acc
  unfold updateStep
  simp only
  split
  · exact Nat.le_refl _
  · exact Nat.le_succ _

theorem replacePlace_failed (p : Package) (w : World) (o : Order) (oid : Nat) (book : Book) (np : Option Rat) (sc : Rat) (failed : Nat) :
    (replacePlace p w o oid book np sc failed).2 = failed := by
  unfold replacePlace
  simp only
  split <;> rfl

theorem replaceStep_failed (p : Package) (acc : World × Nat) (pr : Nat × Option Rat) : (replaceStep p acc pr).2 ≤ acc.2 + 1 := by
  obtain ⟨w, failed⟩ := acc
  obtain ⟨oid, np⟩ := pr
  unfold replaceStep
  simp only
  split
  · exact Nat.le_refl _
  · rw [replacePlace_failed]; exact Nat.le_succ _

/-- C18.1, CANCEL: `execute_cancel` submits no bet; it adds exactly the failures its loop counted (at most one per
    instruction) to the failed-instruction counters of the package's client, total and hourly -/
theorem executeCancel_counts (w : World) (p : Package) (h : (w.client? p.client).isSome = true) :
    cnt (w.executeCancel p) p.client = (cnt w p.client).add ((w.packageOrders p).foldl (cancelStep p) (w, 0)).2 true ∧
    ((w.packageOrders p).foldl (cancelStep p) (w, 0)).2 ≤ (w.packageOrders p).length := by
  exact ⟨(bills_executeCancel w p h).1, by simpa using foldl_failed_le (cancelStep p) (cancelStep_failed p) (w.packageOrders p) (w, 0)⟩

/-- C18.1, UPDATE -/
theorem executeUpdate_counts (w : World) (p : Package) (h : (w.client? p.client).isSome = true) :
    cnt (w.executeUpdate p) p.client = (cnt w p.client).add ((w.packageOrders p).foldl (updateStep p) (w, 0)).2 true ∧
    ((w.packageOrders p).foldl (updateStep p) (w, 0)).2 ≤ (w.packageOrders p).length := by
  exact ⟨(bills_executeUpdate w p h).1, by simpa using foldl_failed_le (updateStep p) (updateStep_failed p) (w.packageOrders p) (w, 0)⟩

/-- the instructions a replace package sends: its orders that have not completed since the request -/
def replaceLive (w : World) (p : Package) : List Nat :=
  (w.packageOrders p).filter fun oid => (w.order! oid).status ≠ some .executionComplete

theorem bills_executeReplace (w : World) (p : Package) :
    Bills p.client (fun k => (k.add (replaceLive w p).length false).add
      (((replaceLive w p).map fun oid => (oid, (w.order! oid).ud.newPrice)).foldl (replaceStep p) (w, 0)).2 true) w (w.executeReplace p) :=
  ((Bills.of_clients (eff_replaceLoop p _ (w, 0)).clients).trans (bills_addTransaction _ p.client _ false)).trans (bills_failed _ p.client _)

/-- C18.1, REPLACE: every instruction sent is a submitted bet (also when its cancel half fails - the exchange counts the
    instruction), and every failed cancel half is a failed instruction on top; nothing else is added -/
theorem executeReplace_counts (w : World) (p : Package) (h : (w.client? p.client).isSome = true) :
    cnt (w.executeReplace p) p.client =
      ((cnt w p.client).add (replaceLive w p).length false).add
        (((replaceLive w p).map fun oid => (oid, (w.order! oid).ud.newPrice)).foldl (replaceStep p) (w, 0)).2 true ∧
    (((replaceLive w p).map fun oid => (oid, (w.order! oid).ud.newPrice)).foldl (replaceStep p) (w, 0)).2 ≤ (replaceLive w p).length := by
  exact ⟨(bills_executeReplace w p h).1,
    by simpa using foldl_failed_le (replaceStep p) (replaceStep_failed p) ((replaceLive w p).map fun oid => (oid, (w.order! oid).ud.newPrice)) (w, 0)⟩

/-- whatever the package, the controls of the OTHER clients are exactly as they were (clients with different limits
    do not leak into each other through the handlers) -/
theorem executePackage_other_clients (w : World) (p : Package) (h : (w.client? p.client).isSome = true) (other : Nat) (hne : other ≠ p.client) :
    (w.executePackage p).client? other = w.client? other := by
  unfold executePackage
  cases p.kind with
  | place =>
    exact (bills_executePlace w p h).2.2 other hne
  | cancel =>
    exact (bills_executeCancel w p h).2.2 other hne
  | update =>
    exact (bills_executeUpdate w p h).2.2 other hne
  | replace =>
    exact (bills_executeReplace w p h).2.2 other hne

end Flumine.C18H
