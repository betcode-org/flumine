/-
  C03 (continued) — legal transitions for whole runs.  `Props/C03.lean` proves the guards, the handler outcomes, finality and
  one-operation-in-flight; this file (it imports the invariant layers that themselves import C03.lean) adds the clause
  "every status step is a legal step of the documented lifecycle" for every reachable state: `Lemmas/Legal.lean` proves, for
  every function of an update, that it extends the status log of every order by a legal path.
-/
import Flumine.Lemmas.Legal
namespace Flumine.C03W
open Flumine.World Flumine.OL Flumine.Legal

/-- the steps accepted here are exactly the documented lifecycle (`C03.legal`) and the two steps of a refused order that
    never left the framework: it may be submitted again, or refused again -/
theorem legal_step_spec (s : Option Status) (t : Status) :
    legal' s t = true ↔ (C03.legal s t = true ∨ (s = some .violation ∧ (t = .pending ∨ t = .violation))) := by
  unfold legal'
  simp only [Bool.or_eq_true, Bool.and_eq_true, beq_iff_eq]

/-- the table the driver answers from (`status.legal`, model file `Status.lean`) is this one -/
theorem legalStep_eq (s : Option Status) (t : Status) : Status.legalStep s t = legal' s t := by
  cases s with
  | none => cases t <;> decide
  | some s' => cases s' <;> cases t <;> decide

theorem chain_head {s : Option Status} {t : Status} {r : List Status} (h : chain s (t :: r) = true) : legal' s t = true := by
  simp only [chain, Bool.and_eq_true] at h; exact h.1

theorem chain_pairs {s : Option Status} {l : List Status} (h : chain s l = true) (pre : List Status) (a b : Status) (post : List Status)
    (hl : l = pre ++ a :: b :: post) : legal' (some a) b = true := by
  subst hl
  rw [chain_append] at h
  simp only [chain, Bool.and_eq_true] at h
  exact h.2.2.1

theorem lastOr_eq_getLast (s : Option Status) (l : List Status) : lastOr s l = (l.getLast?).or s := by
  induction l generalizing s with
  | nil => rfl
  | cons t r ih =>
    rw [lastOr, ih, List.getLast?_cons]
    cases r.getLast? <;> rfl

open Flumine.Inv in
/-- C03 legal transitions, whole-run: take ANY history - any sequence of updates of any markets, in any interleaving, with
    any scripted behaviour of any strategies (requests batched or not, forced or not, refused or accepted, on any order),
    packages executed after their latency, matching, removals, completion loop, closes and re-opens - in which every request
    went through the market its order was created for (`foreign = 0`, as in `one_operation_in_flight_whole_run`).  Then for
    every order that exists at the end: the first entry of its status log is a legal first status (PENDING, or VIOLATION for
    an order refused before it was sent, or EXECUTION_COMPLETE for a replacement order whose placement was refused), every
    further entry is a legal step from the entry before it, and the order's status is the last entry of its log (no status
    while the log is empty).  Every status change of the run went through `_update_status`, which appends to the log, so
    this covers every status change that ever happened. -/
theorem legal_transitions_whole_run (cfg : Config) (cl : List Client) (ss : List Strategy)
    (us : List (Nat × Book × (Nat → List Action)))
    (hloc : (runUpdates { cfg := cfg, clients := cl, strategies := ss } us).foreign = 0) (oid : Nat) :
    (∀ t rest, ((runUpdates { cfg := cfg, clients := cl, strategies := ss } us).order! oid).log = t :: rest → legal' none t = true) ∧
    (∀ pre a b post, ((runUpdates { cfg := cfg, clients := cl, strategies := ss } us).order! oid).log = pre ++ a :: b :: post →
      legal' (some a) b = true) ∧
    ((runUpdates { cfg := cfg, clients := cl, strategies := ss } us).order! oid).status =
      ((runUpdates { cfg := cfg, clients := cl, strategies := ss } us).order! oid).log.getLast? := by
  have h := legal_reachable cfg cl ss us hloc oid
  generalize (runUpdates { cfg := cfg, clients := cl, strategies := ss } us).order! oid = o at h
  obtain ⟨h1, h2⟩ := h
  refine ⟨fun t rest e => chain_head (e ▸ h1), fun pre a b post e => chain_pairs h1 pre a b post e, ?_⟩
  rw [h2, lastOr_eq_getLast, Option.or_none]

open Flumine.Inv in
/-- the same, as one boolean over the log (what the correspondence check evaluates on the real orders' `status_log`) -/
theorem legal_log_whole_run (cfg : Config) (cl : List Client) (ss : List Strategy)
    (us : List (Nat × Book × (Nat → List Action)))
    (hloc : (runUpdates { cfg := cfg, clients := cl, strategies := ss } us).foreign = 0) (oid : Nat) :
    chain none ((runUpdates { cfg := cfg, clients := cl, strategies := ss } us).order! oid).log = true :=
  (legal_reachable cfg cl ss us hloc oid).1

open Flumine.Inv in
/-- consequence: no order is ever EXPIRED in a simulation -/
theorem never_expired_whole_run (cfg : Config) (cl : List Client) (ss : List Strategy)
    (us : List (Nat × Book × (Nat → List Action)))
    (hloc : (runUpdates { cfg := cfg, clients := cl, strategies := ss } us).foreign = 0) (oid : Nat) :
    ((runUpdates { cfg := cfg, clients := cl, strategies := ss } us).order! oid).status ≠ some .expired :=
  (legal_reachable cfg cl ss us hloc oid).not_expired

/-- the execution of ONE package in a state where its orders are distinct and each in flight or complete appends only legal
    steps to every order's log (no hypothesis on how the state was reached: late responses, orders completed meanwhile,
    every kind of package; the replacement orders a REPLACE package creates included) -/
theorem package_execution_is_legal (w : World) (p : Package) (hI : Inv.Inv w) (hnd : p.orders.Nodup)
    (hp : ∀ oid ∈ p.orders, HasOrder w oid ∧ Pre (w.order! oid)) (oid : Nat) :
    ∃ path, ((w.executePackage p).order! oid).log = (w.order! oid).log ++ path ∧ chain (w.order! oid).status path = true :=
  let ⟨path, h1, h2, _⟩ := (lx_executePackage w p hI hnd hp).ext oid
  ⟨path, h1, h2⟩

/-! ### non-vacuity -/

/-- the run of `C03.nvWorld` (an order placed and fully matched) satisfies the hypothesis and has a three-step log -/
example : C03.nvWorld.foreign = 0 ∧ (C03.nvWorld.order! 0).log = [.pending, .executable, .executionComplete] ∧
    chain none (C03.nvWorld.order! 0).log = true :=
  ⟨C03.nvWorld_facts.2.1, C03.nvWorld_facts.1.2.2, by rw [C03.nvWorld_facts.1.2.2]; decide⟩

/-- `chain` does reject illegal logs: an order that becomes EXECUTABLE without ever being PENDING, one that returns from
    EXECUTION_COMPLETE, one that is PENDING twice -/
example : chain none [.executable] = false ∧ chain none [.pending, .executable, .executionComplete, .executable] = false ∧
    chain none [.pending, .pending] = false ∧ chain none [.pending, .executable, .cancelling, .updating] = false := by decide

/-- why the hypothesis is there: in `C03.nvForeign` order 0 is placed a second time through another market while its first
    placement is in flight - flumine accepts it (PENDING -> PENDING), and the ghost counter is 1 -/
example : C03.nvForeign.foreign = 1 ∧ chain none (C03.nvForeign.order! 0).log = false :=
  ⟨C03.nvFlight_facts.2.1.1, by rw [C03.nvFlight_facts.2.2]; decide⟩

end Flumine.C03W
