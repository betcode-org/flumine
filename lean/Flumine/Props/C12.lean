/-
  C12 — Exchange call faults never strand an order or lose a transaction count.
  Model: Flumine.Live (Betfair response handlers per order, reset after exhausted retries, retry
  counter, transaction charges) and SimExec (simulated handlers: C03.cancelStep_outcome etc.).
-/
import Flumine.Live
import Flumine.Props.C03
import Flumine.Lemmas.Settle
import Flumine.Lemmas.Strand
namespace Flumine.C12
open Flumine.Live

/-- a state from which the order can progress: resting at the exchange, or complete -/
def Progressable (o : LOrder) : Prop := o.status = some .executable ∨ o.complete = true

def Stuck (o : LOrder) : Prop :=
  o.complete = false ∧ (o.status = some .cancelling ∨ o.status = some .updating ∨ o.status = some .replacing)

theorem progressable_not_stuck (o : LOrder) (h : Progressable o) : ¬ Stuck o := by
  rintro ⟨hc, hs⟩
  rcases h with h | h
  · rw [h] at hs; rcases hs with e | e | e <;> cases e
  · rw [h] at hc; cases hc

/-- how every response handler ends: `executable()` or `execution_complete()` on the order, after bookkeeping (response
    stored, counters) that leaves its `complete` flag alone -/
inductive Settles (o : LOrder) : LOrder → Prop
  | exec (o' : LOrder) (h : o'.complete = o.complete) : Settles o (executable o')
  | done (o' : LOrder) : Settles o (executionComplete o')

theorem Settles.progressable {o r : LOrder} (h : Settles o r) : Progressable r := by
  cases h with
  | exec o' _ =>
    unfold executable Progressable
    split
    · exact Or.inr ‹_›
    · exact Or.inl rfl
  | done o' => exact Or.inr rfl

theorem Settles.stays_complete {o r : LOrder} (h : Settles o r) (hc : o.complete = true) : r.complete = true := by
  cases h with
  | exec o' e => unfold executable; rw [if_pos (e.trans hc)]; exact e.trans hc
  | done o' => rfl

theorem cancelReport_settles (o : LOrder) (r : CancelRep) : Settles o (cancelReport o r) := by
  unfold cancelReport
  cases r.status <;> simp only <;> (try split) <;> first | exact .done _ | exact .exec _ rfl

theorem cancelMissing_settles (o : LOrder) : Settles o (cancelMissing o) := .exec o rfl

theorem updateReport_settles (o : LOrder) (r : RepStatus) : Settles o (updateReport o r) := .exec _ rfl

theorem replaceCancelReport_settles (o : LOrder) (r : RepStatus) : Settles o (replaceCancelReport o r) := by
  cases r <;> first | exact .done _ | exact .exec _ rfl

theorem resetOrder_settles (c : Bool) (o : LOrder) : Settles o (resetOrder c o) := by
  cases c <;> first | exact .done _ | exact .exec _ rfl

/-! ### every outcome of a cancel / update / replace call leaves the order progressable -/

theorem cancel_any_report (o : LOrder) (r : CancelRep) : Progressable (cancelReport o r) := (cancelReport_settles o r).progressable

theorem cancel_missing_report (o : LOrder) : Progressable (cancelMissing o) := (cancelMissing_settles o).progressable

theorem update_any_report (o : LOrder) (r : RepStatus) : Progressable (updateReport o r) := (updateReport_settles o r).progressable

theorem replace_any_report (o : LOrder) (r : RepStatus) : Progressable (replaceCancelReport o r) := (replaceCancelReport_settles o r).progressable

/-- exhausted retries: PLACE orders are completed, the others are put back to executable -/
theorem reset_progressable (c : Bool) (o : LOrder) : Progressable (resetOrder c o) := (resetOrder_settles c o).progressable

/-- a placement settles the order too, or only stores the response (asynchronous acknowledgement, timeout) -/
theorem placeReport_settles (o : LOrder) (r : PlaceRep) :
    Settles o (placeReport o r) ∨
    (((placeReport o r).status = o.status ∧ (placeReport o r).complete = o.complete) ∧
      (r.status = .timeout ∨ (r.status = .success ∧ r.orderStatus = some .pending))) := by
  unfold placeReport
  simp only
  cases hr : r.status with
  | success =>
    simp only
    cases hos : r.orderStatus with
    | none => exact Or.inl (.exec _ rfl)
    | some st =>
      cases st
      case pending => exact Or.inr ⟨⟨rfl, rfl⟩, by simp⟩
      case expired => exact Or.inl (.done _)
      all_goals exact Or.inl (.exec _ rfl)
  | failure => exact Or.inl (.done _)
  | timeout => exact Or.inr ⟨⟨rfl, rfl⟩, Or.inl rfl⟩

/-- a placement: afterwards the order is executable or complete, or still pending only when the
    exchange may yet have accepted it (asynchronous acknowledgement, or a timeout) -/
theorem place_any_report (o : LOrder) (r : PlaceRep) (hp : o.status = some .pending ∨ o.complete = true) :
    Progressable (placeReport o r) ∨
    ((placeReport o r).status = some .pending ∧ (r.status = .timeout ∨ (r.status = .success ∧ r.orderStatus = some .pending))) := by
  rcases placeReport_settles o r with h | ⟨⟨h1, h2⟩, h3⟩
  · exact Or.inl h.progressable
  · exact hp.elim (fun h => Or.inr ⟨h1.trans h, h3⟩) fun h => Or.inl (Or.inr (h2.trans h))

/-- no handler brings a complete order back to life (the report arrived after the order completed through the stream) -/
theorem handlers_never_revive (o : LOrder) (h : o.complete = true) :
    (∀ r, (placeReport o r).complete = true) ∧ (∀ r, (cancelReport o r).complete = true) ∧ (cancelMissing o).complete = true ∧
    (∀ r, (updateReport o r).complete = true) ∧ (∀ r, (replaceCancelReport o r).complete = true) ∧ (∀ c, (resetOrder c o).complete = true) :=
  ⟨fun r => (placeReport_settles o r).elim (·.stays_complete h) fun hh => hh.1.2.trans h,
    fun r => (cancelReport_settles o r).stays_complete h, (cancelMissing_settles o).stays_complete h,
    fun r => (updateReport_settles o r).stays_complete h, fun r => (replaceCancelReport_settles o r).stays_complete h,
    fun c => (resetOrder_settles c o).stays_complete h⟩

/-! ### retries -/

theorem retry_bound (a : Attempts) (n : Nat) : callsMade n a ≤ a.maxRetries + 1 := Nat.min_le_right _ _

theorem retry_counts (a : Attempts) : (retry a).2 = true ↔ a.retryCount < a.maxRetries := by
  unfold retry; split <;> simp_all

/-- the retry counter never exceeds the configured maximum, whatever the sequence of failures -/
theorem retry_invariant (a : Attempts) (h : a.retryCount ≤ a.maxRetries) : (retry a).1.retryCount ≤ (retry a).1.maxRetries := by
  unfold retry; split
  · simp only; omega
  · exact h

theorem default_is_three_retries : ({} : Attempts).maxRetries = 3 ∧ callsMade 10 {} = 4 := by decide

/-! ### transaction counts -/

/-- bets submitted (placements and replacements of answered calls) plus failed instructions reported -/
theorem charges (c : Counts) (nPlace nReplace : Nat) (cancels updates replaceHalves : List RepStatus) :
    (chargeReplace (chargeCancel (chargeCancel (chargePlace c nPlace) cancels) updates) nReplace replaceHalves).count
      = c.count + nPlace + nReplace ∧
    (chargeReplace (chargeCancel (chargeCancel (chargePlace c nPlace) cancels) updates) nReplace replaceHalves).failed
      = c.failed + countFailures cancels + countFailures updates + countFailures replaceHalves := ⟨rfl, rfl⟩

theorem countFailures_le (rs : List RepStatus) : countFailures rs ≤ rs.length := List.length_filter_le _ _

/-! ### the simulated execution (restated from C03 for this property) -/

open Flumine.World Flumine.OL in
/-- simulated cancel / update / place handlers: the order handled ends executable or complete (or stays
    as final as it was) — never cancelling / updating / replacing -/
theorem simulated_handlers_settle (p : Package) (w : World) (failed oid : Nat) (ho : HasOrder w oid) :
    C03.HandlerOutcome (w.order! oid) ((cancelStep p (w, failed) oid).1.order! oid) ∧
    C03.HandlerOutcome (w.order! oid) ((updateStep p (w, failed) oid).1.order! oid) ∧
    C03.HandlerOutcome (w.order! oid) ((placeStep p w oid).order! oid) :=
  ⟨(C03.cancelStep_outcome p w failed oid ho).1, (C03.updateStep_outcome p w failed oid ho).1, C03.placeStep_outcome p w oid ho⟩


/-! ### the simulated execution of a whole package -/

open Flumine.World Flumine.OL Flumine.Settle Flumine.Inv in
/-- C12 for simulated execution, whole package: whatever the kind of the package (place / cancel / update /
    replace), whatever the simulated exchange answers for each instruction (success, failure with any error,
    a refused re-placement), and whatever happened to the orders while the request waited out its latency
    (matched, lapsed, voided, completed), after the package has been executed EVERY order of it is executable
    or complete - none is left pending, cancelling, updating or replacing.  (Before fix 369e08f this statement
    was false for replace packages: an order that had completed since the request shifted the instructions and
    the last order of the package was never handled.) -/
theorem package_settles_every_order (w : World) (p : Package) (hI : Inv w) (hp : ∀ oid ∈ p.orders, HasOrder w oid) :
    ∀ oid ∈ w.packageOrders p, Settled ((w.executePackage p).order! oid) :=
  Settle.package_settles w p hI hp

open Flumine.World Flumine.OL Flumine.Settle Flumine.Inv in
/-- ... in every reachable state, for every package waiting in the queue -/
theorem queued_package_settles_reachable (cfg : Config) (cl : List Client) (ss : List Strategy)
    (us : List (Nat × Book × (Nat → List Action))) :
    ∀ p ∈ (runUpdates { cfg := cfg, clients := cl, strategies := ss } us).queue,
      ∀ oid ∈ (runUpdates { cfg := cfg, clients := cl, strategies := ss } us).packageOrders p,
        Settled (((runUpdates { cfg := cfg, clients := cl, strategies := ss } us).executePackage p).order! oid) := by
  intro p hp
  have hI := inv_reachable cfg cl ss us
  exact package_settles_every_order _ p hI (fun oid ho => (Ids.hasOrder_iff _ oid).mpr (hI.queue p hp oid ho))


/-- non-vacuity of `package_settles_every_order` on the history that exposed the defect: two orders replaced in one
    package, the first fully matched while the request waits; the package [0, 1] is queued with order 0 already
    EXECUTION_COMPLETE and order 1 REPLACING - executing it completes order 1 and creates its replacement (3 orders) -/
def nvBk (pt : Int) (trd : List (Rat × Rat)) : Book :=
  { pt := pt, activeRunners := 2, runners := [{ sel := 1, atb := [⟨2, 50⟩], atl := [⟨5/2, 50⟩], trd := trd }, { sel := 2 }] }
def nvO (id : Nat) (size : Rat) : Order :=
  { id := id, trade := id, strategy := 0, market := 1, sel := 1, sim := { side := .back, kind := .limit, price := 3, size := size } }
def nvRun : World :=
  Inv.runUpdates { clients := [{ id := 0 }], strategies := [{ id := 0, streams := [0], maxLive := 5, multiOrder := true, maxOrder := none, maxSel := none }] }
    [(1, nvBk 1000 [], fun _ => [.create (nvO 0 4) (some { id := 0, strategy := 0, market := 1, sel := 1 }), .place (.byId 0) none false,
                                  .create (nvO 1 50) (some { id := 1, strategy := 0, market := 1, sel := 1 }), .place (.byId 1) none false]),
     (1, nvBk 1200 [], fun _ => []),
     (1, nvBk 1300 [], fun _ => [.batchBegin 0, .replace (.byId 0) (7/2) none false, .replace (.byId 1) (7/2) none false, .batchEnd]),
     (1, nvBk 1400 [(3, 20)], fun _ => [])]
/-- one evaluation of the run serves the three examples that follow -/
theorem nvRun_facts :
    ((nvRun.queue.map fun p => (p.kind.name, p.orders)) = [("REPLACE", [0, 1])] ∧
      (nvRun.order! 0).status = some .executionComplete ∧ (nvRun.order! 1).status = some .replacing) ∧
    (nvRun.queue.map fun p => (((nvRun.executePackage p).order! 1).status, (nvRun.executePackage p).orders.length)) =
      [(some .executionComplete, 3)] ∧ nvRun.foreign = 0 := by decide +kernel
example : (nvRun.queue.map fun p => (p.kind.name, p.orders)) = [("REPLACE", [0, 1])] ∧
    (nvRun.order! 0).status = some .executionComplete ∧ (nvRun.order! 1).status = some .replacing := nvRun_facts.1
example : (nvRun.queue.map fun p => (((nvRun.executePackage p).order! 1).status, (nvRun.executePackage p).orders.length)) =
    [(some .executionComplete, 3)] := nvRun_facts.2.1

/-! ### C12 for simulated execution, whole run: no order is ever stranded (`Lemmas/Strand.lean`) -/

open Flumine.World Flumine.OL Flumine.Settle Flumine.Inv Flumine.Fl Flumine.Strand in
/-- Take ANY history - any sequence of updates of any markets, in any interleaving, any scripted behaviour of any
    strategies (requests batched or not, forced or not, refused or accepted), packages executed after their latency
    with any simulated answers, matching, removals, completion loop, closes and re-opens - in which every request went
    through the market its order was created for (`foreign = 0`, as in C03).  Then every order that is PENDING,
    CANCELLING, UPDATING or REPLACING is listed by a package that waits in the handler queue, and executing that
    package leaves it executable or complete: no order is left in an in-flight status without the operation that
    will settle it.  (By C03 `one_operation_in_flight_whole_run` that package is the only one listing it.) -/
theorem no_order_stranded_whole_run (cfg : Config) (cl : List Client) (ss : List Strategy)
    (us : List (Nat × Book × (Nat → List Action)))
    (hloc : (runUpdates { cfg := cfg, clients := cl, strategies := ss } us).foreign = 0) (oid : Nat)
    (ho : HasOrder (runUpdates { cfg := cfg, clients := cl, strategies := ss } us) oid)
    (hf : ((runUpdates { cfg := cfg, clients := cl, strategies := ss } us).order! oid).status = some .pending ∨
          ((runUpdates { cfg := cfg, clients := cl, strategies := ss } us).order! oid).status = some .cancelling ∨
          ((runUpdates { cfg := cfg, clients := cl, strategies := ss } us).order! oid).status = some .updating ∨
          ((runUpdates { cfg := cfg, clients := cl, strategies := ss } us).order! oid).status = some .replacing) :
    ∃ p ∈ (runUpdates { cfg := cfg, clients := cl, strategies := ss } us).queue,
      oid ∈ (runUpdates { cfg := cfg, clients := cl, strategies := ss } us).packageOrders p ∧
      Settled (((runUpdates { cfg := cfg, clients := cl, strategies := ss } us).executePackage p).order! oid) := by
  obtain ⟨f, c⟩ := strand_reachable cfg cl ss us hloc
  generalize runUpdates { cfg := cfg, clients := cl, strategies := ss } us = w at f c ho hf
  have hin := c.cv oid ho hf
  rw [pendIds_none] at hin
  obtain ⟨p, hp1, hp2⟩ := mem_queueIds.mp hin
  -- an order in flight is not VIOLATION, so the handler does not skip it
  have hpo : oid ∈ w.packageOrders p :=
    List.mem_filter.mpr ⟨hp2, decide_eq_true fun e => by rcases hf with h | h | h | h <;> (rw [e] at h; cases h)⟩
  exact ⟨p, hp1, hpo, Settle.package_settles w p f.inv (fun x hx => (Ids.hasOrder_iff _ x).mpr (f.inv.queue p hp1 x hx)) oid hpo⟩

open Flumine.World Flumine.OL Flumine.Inv Flumine.Fl Flumine.Strand in
/-- the re-placement half of a simulated replace (`market.place_order(replacement, execute=False)` then
    `replacement.executable()`, or `execution_complete()` when the simulated exchange refuses it): the only order it
    creates is the replacement order, and that order ends EXECUTABLE (placed) or EXECUTION_COMPLETE (refused) - it is
    never left PENDING although it passes through that status -/
theorem replacement_order_is_settled (p : Package) (w : World) (o : Order) (a : Nat) (book : Book) (np : Option Rat) (sc : Rat) (failed : Nat)
    (ha : HasOrder w a) (hI : Inv w) (x : Nat) (hnew : ¬ HasOrder w x) (hx : HasOrder (replacePlace p w o a book np sc failed).1 x) :
    ((replacePlace p w o a book np sc failed).1.order! x).status = some .executable ∨
    ((replacePlace p w o a book np sc failed).1.order! x).status = some .executionComplete :=
  replacePlace_new p w o a book np sc failed ha hI x hnew hx

/-- non-vacuity: in `nvRun` (above: a replace package [0, 1] waits, order 1 is REPLACING) no request was foreign -/
example : nvRun.foreign = 0 := nvRun_facts.2.2

/-! ### non-vacuity of the report outcomes -/

def cancelling : LOrder := { id := 0, status := some .cancelling, log := [.pending, .executable, .cancelling], betId := some 7 }
example : (cancelReport cancelling { status := .failure }).status = some .executable := by decide +kernel
example : (cancelReport cancelling { status := .success, sizeCancelled := 2 }).complete = true := by decide +kernel
example : Stuck cancelling := ⟨rfl, Or.inl rfl⟩

end Flumine.C12
