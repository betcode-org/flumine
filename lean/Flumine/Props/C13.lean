/-
  C13 — Strategies are isolated from each other and from callback errors.
  Model: Flumine.Dispatch (dispatch of one update with arbitrary, possibly raising callbacks),
  Mw.matchOrders / matchStrategy (the per-strategy copy of the traded volume).  The loop theorems are
  about a fold of `matchStrategy` over any list of strategy ids; the list `mwProcessSimulatedOrders`
  folds over is not instantiated.
-/
import Flumine.Dispatch
import Flumine.Mw
import Flumine.Lemmas.OrderLemmas
import Flumine.Lemmas.ListAux
import Flumine.Lemmas.Inv
namespace Flumine.C13
open Flumine.Dispatch

/-! ### error containment in the dispatch of one update -/

def callsOf (t : Nat) (l : List Call) : List Call := l.filter fun c => c.who = .strategy t
def AgreeOn (t : Nat) (b1 b2 : Call → Outcome) : Prop := ∀ k, b1 ⟨.strategy t, k⟩ = b2 ⟨.strategy t, k⟩

theorem guarded_eq_true (o : Outcome) : guarded o = true ↔ o = .returned true := by
  cases o <;> simp [guarded]

theorem mem_strategyCalls {beh : Call → Outcome} {isNew : Bool} {s : StrategyInfo} {c : Call} :
    c ∈ strategyCalls beh isNew s ↔ s.subscribed = true ∧ c.who = .strategy s.idx ∧
      (c.kind = .newMarket ∧ isNew = true ∨ c.kind = .check ∨ c.kind = .book ∧ guarded (beh ⟨.strategy s.idx, .check⟩) = true) := by
  obtain ⟨who, kind⟩ := c
  unfold strategyCalls
  cases s.subscribed <;> cases isNew <;> cases guarded (beh ⟨.strategy s.idx, .check⟩) <;> simp [and_or_left]

theorem strategyCalls_own (beh : Call → Outcome) (isNew : Bool) (s : StrategyInfo) :
    ∀ c ∈ strategyCalls beh isNew s, c.who = .strategy s.idx := fun _ h => (mem_strategyCalls.mp h).2.1

theorem mem_mwCalls {n : Nat} {c : Call} (h : c ∈ (List.range n).map fun i => (⟨.middleware i, .mw⟩ : Call)) :
    c.kind = .mw ∧ ∃ i, c.who = .middleware i := by
  obtain ⟨i, _, rfl⟩ := List.mem_map.mp h; exact ⟨rfl, i, rfl⟩

theorem mem_ordersCalls {active : Bool} {ss : List StrategyInfo} {c : Call} (h : c ∈ if active then ordersCalls ss else []) :
    c.kind = .orders ∧ ∃ i, c.who = .strategy i := by
  split at h
  · obtain ⟨x, _, rfl⟩ := List.mem_map.mp h; exact ⟨rfl, x.idx, rfl⟩
  · cases h

theorem filter_processBook (p : Call → Bool) (beh : Call → Outcome) (nMw : Nat) (active isNew : Bool) (ss : List StrategyInfo) :
    (processBook beh nMw active isNew ss).filter p =
      ((List.range nMw).map fun i => (⟨.middleware i, .mw⟩ : Call)).filter p ++ (if active then ordersCalls ss else []).filter p ++
        ss.flatMap fun s => (strategyCalls beh isNew s).filter p := by
  simp only [processBook, List.filter_append, List.filter_flatMap]

/-- C13 (containment): whatever the callbacks of the OTHER strategies and of the middleware do -
    return anything, or raise at any invocation - strategy t receives exactly the same calls -/
theorem other_errors_do_not_reach (t : Nat) (b1 b2 : Call → Outcome) (h : AgreeOn t b1 b2)
    (nMw : Nat) (active isNew : Bool) (ss : List StrategyInfo) :
    callsOf t (processBook b1 nMw active isNew ss) = callsOf t (processBook b2 nMw active isNew ss) := by
  unfold callsOf
  rw [filter_processBook, filter_processBook]
  congr 1
  refine flatMap_congr fun s _ => ?_
  by_cases e : s.idx = t
  · subst e; unfold strategyCalls; rw [h .check]
  · have : ∀ b, (strategyCalls b isNew s).filter (fun c => c.who = .strategy t) = [] := fun b =>
      List.filter_eq_nil_iff.mpr fun c hc => by rw [strategyCalls_own b isNew s c hc]; simpa using e
    rw [this, this]

/-- every subscribed strategy is asked `check_market_book` exactly once per update, whoever raises -/
theorem check_exactly_once (beh : Call → Outcome) (nMw : Nat) (active isNew : Bool) (ss : List StrategyInfo)
    (s : StrategyInfo) (hs : s ∈ ss) (hsub : s.subscribed = true) (hnd : (ss.map (·.idx)).Nodup) :
    ((processBook beh nMw active isNew ss).filter fun c => c = ⟨.strategy s.idx, .check⟩).length = 1 := by
  have h1 : ((List.range nMw).map fun i => (⟨.middleware i, .mw⟩ : Call)).filter (fun c => c = ⟨.strategy s.idx, .check⟩) = [] :=
    List.filter_eq_nil_iff.mpr fun c hc => by have := (mem_mwCalls hc).1; simp only [decide_eq_true_eq]; rintro rfl; cases this
  have h2 : (if active then ordersCalls ss else []).filter (fun c => c = ⟨.strategy s.idx, .check⟩) = [] :=
    List.filter_eq_nil_iff.mpr fun c hc => by have := (mem_ordersCalls hc).1; simp only [decide_eq_true_eq]; rintro rfl; cases this
  -- only s's own segment can hold the call
  have h3 := flatMap_eq_of_key (·.idx) (fun t => (strategyCalls beh isNew t).filter fun c => c = ⟨.strategy s.idx, .check⟩) hs hnd
    fun x _ hx => List.filter_eq_nil_iff.mpr fun c hc => by
      simp only [decide_eq_true_eq]; rintro rfl; exact hx (Who.strategy.inj (strategyCalls_own beh isNew x _ hc)).symm
  rw [filter_processBook, h1, h2, h3]
  unfold strategyCalls
  rw [if_pos hsub]
  cases isNew <;> cases guarded (beh ⟨.strategy s.idx, .check⟩) <;> simp

/-- `process_market_book` is reached iff the strategy's own check returned True (a raising check counts as False) -/
theorem book_iff_own_check (beh : Call → Outcome) (isNew : Bool) (s : StrategyInfo) (hsub : s.subscribed = true) :
    (⟨.strategy s.idx, .book⟩ : Call) ∈ strategyCalls beh isNew s ↔ beh ⟨.strategy s.idx, .check⟩ = .returned true := by
  simp [mem_strategyCalls, hsub, guarded_eq_true]

/-- middleware runs before every strategy callback of the update, whoever raises -/
theorem middleware_first (beh : Call → Outcome) (nMw : Nat) (active isNew : Bool) (ss : List StrategyInfo) :
    ∃ rest, processBook beh nMw active isNew ss = (List.range nMw).map (fun i => (⟨.middleware i, .mw⟩ : Call)) ++ rest ∧
      ∀ c ∈ rest, ∀ i, c.who ≠ .middleware i := by
  refine ⟨_, List.append_assoc _ _ _, fun c hc i => ?_⟩
  rcases List.mem_append.mp hc with h | h
  · obtain ⟨_, j, hj⟩ := mem_ordersCalls h; rw [hj]; simp
  · obtain ⟨y, _, hcy⟩ := List.mem_flatMap.mp h
    rw [strategyCalls_own beh isNew y c hcy]; simp

/-- all middleware run even when an earlier one raises (their number does not depend on the behaviour) -/
theorem middleware_all_run (b1 b2 : Call → Outcome) (nMw : Nat) (active isNew : Bool) (ss : List StrategyInfo) :
    (processBook b1 nMw active isNew ss).filter (fun c => c.kind = .mw) = (processBook b2 nMw active isNew ss).filter (fun c => c.kind = .mw) := by
  have key : ∀ b : Call → Outcome, (processBook b nMw active isNew ss).filter (fun c => c.kind = .mw) =
      (List.range nMw).map (fun i => (⟨.middleware i, .mw⟩ : Call)) := fun b => by
    rw [filter_processBook,
      List.filter_eq_self.mpr fun c hc => by simp [(mem_mwCalls hc).1],
      List.filter_eq_nil_iff.mpr fun c hc => by simp [(mem_ordersCalls hc).1],
      List.flatMap_eq_nil_iff.mpr fun s _ => List.filter_eq_nil_iff.mpr fun c hc => by
        rcases (mem_strategyCalls.mp hc).2.2 with h | h | h <;> simp [h]]
    simp
  rw [key b1, key b2]


/-! ### the per-strategy copy of the traded volume -/

open Flumine.World Flumine.OL

/-- matching a strategy's orders works on a copy of the market's traded volume: the books and the
    traded-volume analytics, what the next strategy will be matched against, are left as they were -/
theorem matchOrders_keeps_analytics (w : World) (mid mid' : Nat) (sorted : List Order) (recheck : Bool) :
    ((w.matchOrders mid sorted recheck).market! mid').analytics = (w.market! mid').analytics ∧
    ((w.matchOrders mid sorted recheck).market! mid').book = (w.market! mid').book := by
  rw [OL.market!_congr w _ (eff_matchOrders w mid sorted recheck).markets]; exact ⟨rfl, rfl⟩

/-- the copy every strategy starts from is built from the market's analytics alone -/
theorem matchOrders_starts_from_analytics (w : World) (mid : Nat) (sorted : List Order) (recheck : Bool) :
    w.matchOrders mid sorted recheck =
      (sorted.foldl (matchStep mid recheck) (w, (w.market! mid).analytics.map fun a => (a.sel, a.hc, a.traded))).1 := rfl

/-- v is w with orders among X rewritten (ids and strategy tags kept; trades and runner contexts may differ): the market
    table, the clients, the clock and every order outside X are as in w -/
structure Touch (X : Nat → Prop) (w v : World) : Prop where
  markets : v.markets = w.markets
  clients : v.clients = w.clients
  clock : v.clock = w.clock
  has : ∀ id, HasOrder w id → HasOrder v id
  tag : ∀ id, HasOrder w id → (v.order! id).strategy = (w.order! id).strategy
  same : ∀ id, ¬ X id → v.order! id = w.order! id

theorem Touch.refl (X : Nat → Prop) (w : World) : Touch X w w := ⟨rfl, rfl, rfl, fun _ h => h, fun _ _ => rfl, fun _ _ => rfl⟩

theorem Touch.trans {X : Nat → Prop} {w v u : World} (h1 : Touch X w v) (h2 : Touch X v u) : Touch X w u :=
  ⟨h2.markets.trans h1.markets, h2.clients.trans h1.clients, h2.clock.trans h1.clock, fun id h => h2.has id (h1.has id h),
    fun id h => (h2.tag id (h1.has id h)).trans (h1.tag id h), fun id h => (h2.same id h).trans (h1.same id h)⟩

theorem Touch.mono {X Y : Nat → Prop} {w v : World} (h : Touch X w v) (hXY : ∀ id, X id → Y id) : Touch Y w v :=
  { h with same := fun id hn => h.same id fun hx => hn (hXY id hx) }

theorem touch_modifyOrder (w : World) (a : Nat) (f : Order → Order) (hf : ∀ x, (f x).id = x.id ∧ (f x).strategy = x.strategy) :
    Touch (· = a) w (w.modifyOrder a f) := by
  have hid : ∀ x, x.id = a → (f x).id = a := fun x hx => (hf x).1.trans hx
  refine ⟨rfl, rfl, rfl, fun id h => hasOrder_modify w id a f h hid, fun id h => ?_, fun id hne => order!_modify_other w id a f hne hid⟩
  by_cases e : id = a
  · subst e; rw [order!_modify_self w id f h hid]; exact (hf _).2
  · rw [order!_modify_other w id a f e hid]

theorem touch_orderExecutionComplete (w : World) (a : Nat) (ha : HasOrder w a) : Touch (· = a) w (w.orderExecutionComplete a) := by
  have other : ∀ id, id ≠ a → (w.orderExecutionComplete a).order! id = w.order! id := fun id hne => by
    unfold orderExecutionComplete
    rw [order!_modify_other _ id a _ hne, orderUpdateStatus_other w id a .executionComplete ha hne]
  have e := eff_orderExecutionComplete w a
  refine ⟨e.markets, e.clients, e.clock, fun id h => (e.hasOrder id).mpr h, fun id _ => ?_, other⟩
  by_cases e : id = a
  · rw [e, executionComplete_self w a ha]; rfl
  · rw [other id e]

theorem matchStep_touch (mid : Nat) (recheck : Bool) (w : World) (lk : List (Nat × Rat × List (Rat × Rat))) (o0 : Order)
    (h0 : HasOrder w o0.id) : Touch (· = o0.id) w (matchStep mid recheck (w, lk) o0).1 := by
  have t := touch_modifyOrder w o0.id (fun x => { x with sim := (matchCall mid w lk o0).1 }) fun _ => ⟨rfl, rfl⟩
  rw [matchStep_eq, order!_id w o0.id h0]
  by_cases hr : (recheck && !isMwLive (w.order! o0.id)) = true
  · rw [if_pos hr]; exact Touch.refl _ w
  · rw [if_neg hr]
    by_cases hd : (matchCall mid w lk o0).2.2 = true
    · rw [if_pos hd]; exact t.trans (touch_orderExecutionComplete _ o0.id (t.has _ h0))
    · rw [if_neg hd]; exact t

/-- by `foldl_rel`: each step touches its own order (`matchStep_touch`), and `Touch.has` keeps the later ones in the table -/
theorem matchOrders_touch (w : World) (mid : Nat) (l : List Order) (recheck : Bool) (hl : ∀ o ∈ l, HasOrder w o.id) :
    Touch (fun id => ∃ o ∈ l, o.id = id) w (w.matchOrders mid l recheck) :=
  foldl_rel (R := Touch fun id => ∃ o ∈ l, o.id = id) (Touch.refl _) Touch.trans Prod.fst (matchStep mid recheck)
    (fun w o => o ∈ l ∧ HasOrder w o.id) (fun _ t h => ⟨h.1, t.has _ h.2⟩)
    (fun s o h => (matchStep_touch mid recheck s.1 s.2 o h.2).mono fun _ e => ⟨o, h.1, e.symm⟩) l (w, _) fun o ho => ⟨ho, hl o ho⟩


/-! ### isolation of the matching step: what another strategy's orders do cannot be seen -/

/-- two worlds that look the same from the orders in S: those orders, the market table and the clients -/
structure Agree (S : Nat → Prop) (w1 w2 : World) : Prop where
  orders : ∀ id, S id → w1.order! id = w2.order! id
  has1 : ∀ id, S id → HasOrder w1 id
  has2 : ∀ id, S id → HasOrder w2 id
  markets : w1.markets = w2.markets
  clients : w1.clients = w2.clients
  clock : w1.clock = w2.clock

theorem Agree.step {S : Nat → Prop} {w1 w2 v1 v2 : World} {a : Nat} (h : Agree S w1 w2)
    (t1 : Touch (· = a) w1 v1) (t2 : Touch (· = a) w2 v2) (e : v1.order! a = v2.order! a) : Agree S v1 v2 :=
  ⟨fun id hs => if c : id = a then c ▸ e else (t1.same id c).trans ((h.orders id hs).trans (t2.same id c).symm),
    fun id hs => t1.has id (h.has1 id hs), fun id hs => t2.has id (h.has2 id hs),
    t1.markets.trans (h.markets.trans t2.markets.symm), t1.clients.trans (h.clients.trans t2.clients.symm),
    t1.clock.trans (h.clock.trans t2.clock.symm)⟩

theorem Agree.modifyOrder {S : Nat → Prop} {w1 w2 : World} {a : Nat} (h : Agree S w1 w2) (hs : S a) (f : Order → Order)
    (hf : ∀ x, (f x).id = x.id ∧ (f x).strategy = x.strategy) : Agree S (w1.modifyOrder a f) (w2.modifyOrder a f) :=
  h.step (touch_modifyOrder w1 a f hf) (touch_modifyOrder w2 a f hf) (by
    rw [order!_modify_self w1 a f (h.has1 a hs) fun x hx => (hf x).1.trans hx,
      order!_modify_self w2 a f (h.has2 a hs) fun x hx => (hf x).1.trans hx, h.orders a hs])

theorem Agree.orderExecutionComplete {S : Nat → Prop} {w1 w2 : World} {a : Nat} (h : Agree S w1 w2) (hs : S a) :
    Agree S (w1.orderExecutionComplete a) (w2.orderExecutionComplete a) :=
  h.step (touch_orderExecutionComplete w1 a (h.has1 a hs)) (touch_orderExecutionComplete w2 a (h.has2 a hs)) (by
    rw [executionComplete_self w1 a (h.has1 a hs), executionComplete_self w2 a (h.has2 a hs), h.orders a hs, h.clock])

theorem matchStep_agree (S : Nat → Prop) (mid : Nat) (recheck : Bool) (w1 w2 : World) (lk : List (Nat × Rat × List (Rat × Rat)))
    (o0 : Order) (h : Agree S w1 w2) (hs : S o0.id) :
    Agree S (matchStep mid recheck (w1, lk) o0).1 (matchStep mid recheck (w2, lk) o0).1 ∧
    (matchStep mid recheck (w1, lk) o0).2 = (matchStep mid recheck (w2, lk) o0).2 := by
  have ho := h.orders o0.id hs
  -- both runs read the same order, book, client and traded copy
  have hc : matchCall mid w1 lk o0 = matchCall mid w2 lk o0 := by
    simp only [matchCall, client!, client?, ho, OL.market!_congr w2 w1 h.markets mid, h.clients]
  rw [matchStep_eq, matchStep_eq, ← ho, ← hc, order!_id w1 o0.id (h.has1 o0.id hs)]
  by_cases hr : (recheck && !isMwLive (w1.order! o0.id)) = true
  · rw [if_pos hr, if_pos hr]; exact ⟨h, rfl⟩
  · rw [if_neg hr, if_neg hr]
    refine ⟨?_, rfl⟩
    have base := h.modifyOrder hs (fun x => { x with sim := (matchCall mid w1 lk o0).1 }) fun _ => ⟨rfl, rfl⟩
    by_cases hd : (matchCall mid w1 lk o0).2.2 = true
    · rw [if_pos hd, if_pos hd]; exact base.orderExecutionComplete hs
    · rw [if_neg hd, if_neg hd]; exact base

theorem fold_agree (S : Nat → Prop) (mid : Nat) (recheck : Bool) (l : List Order) (hl : ∀ o ∈ l, S o.id)
    (w1 w2 : World) (lk : List (Nat × Rat × List (Rat × Rat))) (h : Agree S w1 w2) :
    Agree S (l.foldl (matchStep mid recheck) (w1, lk)).1 (l.foldl (matchStep mid recheck) (w2, lk)).1 ∧
    (l.foldl (matchStep mid recheck) (w1, lk)).2 = (l.foldl (matchStep mid recheck) (w2, lk)).2 := by
  induction l generalizing w1 w2 lk with
  | nil => exact ⟨h, rfl⟩
  | cons o os ih =>
    obtain ⟨ha, hk⟩ := matchStep_agree S mid recheck w1 w2 lk o h (hl o List.mem_cons_self)
    rw [List.foldl_cons, List.foldl_cons, ← Prod.eta (matchStep mid recheck (w1, lk) o), ← Prod.eta (matchStep mid recheck (w2, lk) o), ← hk]
    exact ih (fun x hx => hl x (List.mem_cons_of_mem _ hx)) _ _ _ ha

theorem matchOrders_agree (S : Nat → Prop) (mid : Nat) (recheck : Bool) (l : List Order) (hl : ∀ o ∈ l, S o.id)
    (w1 w2 : World) (h : Agree S w1 w2) : Agree S (w1.matchOrders mid l recheck) (w2.matchOrders mid l recheck) := by
  unfold matchOrders
  simp only
  rw [OL.market!_congr w2 w1 h.markets mid]
  exact (fold_agree S mid recheck l hl w1 w2 _ h).1

/-- C13 (isolation of the matching step): whatever orders of OTHER strategies were matched first - any
    number, any fills, any completions - the orders of strategy A end up exactly as if the others had
    not been there: every strategy is matched against the same traded volume and book -/
theorem isolation_of_matching (S : Nat → Prop) (mid : Nat) (recheck : Bool) (LA LB : List Order) (w : World)
    (hA : ∀ o ∈ LA, S o.id) (hB : ∀ o ∈ LB, ¬ S o.id)
    (hasA : ∀ id, S id → HasOrder w id) (hasB : ∀ o ∈ LB, HasOrder w o.id) :
    ∀ id, S id → ((w.matchOrders mid LB recheck).matchOrders mid LA recheck).order! id = (w.matchOrders mid LA recheck).order! id := by
  have t := matchOrders_touch w mid LB recheck hasB
  have hag : Agree S (w.matchOrders mid LB recheck) w :=
    ⟨fun id hs => t.same id fun ⟨o, ho, e⟩ => hB o ho (e ▸ hs), fun id hs => t.has id (hasA id hs), hasA, t.markets, t.clients, t.clock⟩
  exact fun id hs => (matchOrders_agree S mid recheck LA hA _ _ hag).orders id hs


/-! #### from the matching step to the per-strategy loop -/

theorem mem_live_sorted (w : World) (mid sid : Nat) (hb : ∀ oid ∈ (w.market! mid).blotter, HasOrder w oid)
    (x : Order) (h : x ∈ sortOrders (w.strategyLive mid sid)) :
    HasOrder w x.id ∧ x.id ∈ (w.market! mid).blotter ∧ (w.order! x.id).strategy = sid := by
  obtain ⟨hm, hp⟩ := List.mem_filter.mp (mem_sortOrders _ x h)
  obtain ⟨oid, ho, rfl⟩ := List.mem_map.mp hm
  simp only [decide_eq_true_eq] at hp
  rw [order!_id w oid (hb oid ho)]
  exact ⟨hb oid ho, ho, hp.1⟩

theorem matchStrategy_touch (mid : Nat) (w : World) (B : Nat) (hb : ∀ oid ∈ (w.market! mid).blotter, HasOrder w oid) :
    Touch (fun id => id ∈ (w.market! mid).blotter ∧ (w.order! id).strategy = B) w (matchStrategy mid w B) :=
  matchStrategy_eq mid w B ▸ (matchOrders_touch w mid _ false fun x hx => (mem_live_sorted w mid B hb x hx).1).mono
    fun _ ⟨x, hx, e⟩ => e ▸ (mem_live_sorted w mid B hb x hx).2

/-- v is the world w after strategies other than A were matched: same market table, clients and clock;
    every order of w is still there with its strategy tag; A's orders are exactly as in w -/
structure Untouched (mid A : Nat) (w v : World) : Prop where
  markets : v.markets = w.markets
  clients : v.clients = w.clients
  clock : v.clock = w.clock
  has : ∀ id, HasOrder w id → HasOrder v id
  tag : ∀ id, HasOrder w id → (v.order! id).strategy = (w.order! id).strategy
  same : ∀ id, id ∈ (w.market! mid).blotter → (w.order! id).strategy = A → v.order! id = w.order! id

theorem Untouched.refl (mid A : Nat) (w : World) : Untouched mid A w w :=
  ⟨rfl, rfl, rfl, fun _ h => h, fun _ _ => rfl, fun _ _ _ => rfl⟩

theorem untouched_step (mid A B : Nat) (hAB : A ≠ B) (w v : World)
    (hb : ∀ oid ∈ (w.market! mid).blotter, HasOrder w oid) (h : Untouched mid A w v) :
    Untouched mid A w (matchStrategy mid v B) := by
  have hmk : v.market! mid = w.market! mid := OL.market!_congr w v h.markets mid
  have t := matchStrategy_touch mid v B fun oid ho => h.has oid (hb oid (hmk ▸ ho))
  refine ⟨t.markets.trans h.markets, t.clients.trans h.clients, t.clock.trans h.clock, fun id hid => t.has id (h.has id hid),
    fun id hid => (t.tag id (h.has id hid)).trans (h.tag id hid), fun id hin hsA => ?_⟩
  -- an order of A is not an order of B in v: its tag is the one it has in w
  rw [t.same id fun hB => hAB (by rw [← hsA, ← h.tag id (hb id hin), hB.2]), h.same id hin hsA]

theorem untouched_fold (mid A : Nat) (w : World) (hb : ∀ oid ∈ (w.market! mid).blotter, HasOrder w oid)
    (l : List Nat) (hl : ∀ B ∈ l, A ≠ B) (v : World) (h : Untouched mid A w v) :
    Untouched mid A w (l.foldl (matchStrategy mid) v) :=
  List.foldlRecOn l _ (motive := Untouched mid A w) h fun v hv B hB => untouched_step mid A B (hl B hB) w v hb hv

theorem own_step_agrees (mid A : Nat) (w v : World) (hb : ∀ oid ∈ (w.market! mid).blotter, HasOrder w oid)
    (h : Untouched mid A w v) :
    ∀ oid ∈ (w.market! mid).blotter, (w.order! oid).strategy = A →
      (matchStrategy mid v A).order! oid = (matchStrategy mid w A).order! oid := by
  let S : Nat → Prop := fun id => id ∈ (w.market! mid).blotter ∧ (w.order! id).strategy = A
  have hag : Agree S v w := ⟨fun id hs => h.same id hs.1 hs.2, fun id hs => h.has id (hb id hs.1), fun id hs => hb id hs.1, h.markets, h.clients, h.clock⟩
  -- A's live list is the same in both worlds
  have hlive : v.strategyLive mid A = w.strategyLive mid A := by
    unfold strategyLive
    rw [OL.market!_congr w v h.markets mid]
    refine filter_map_congr _ _ _ _ fun oid hin => ?_
    by_cases hs : (w.order! oid).strategy = A
    · exact Or.inl (h.same oid hin hs)
    · exact Or.inr ⟨by simp [h.tag oid (hb oid hin), hs], by simp [hs]⟩
  intro oid hin hsA
  rw [matchStrategy_eq, matchStrategy_eq, hlive]
  exact (matchOrders_agree S mid false _ (fun x hx => (mem_live_sorted w mid A hb x hx).2) v w hag).orders oid ⟨hin, hsA⟩

/-- C13 (isolation of the matching loop): with strategy isolation on, the orders of strategy A after
    the whole per-strategy loop - any number of other strategies before and after it, in any order -
    are exactly what matching A alone produces -/
theorem isolated_loop (mid A : Nat) (w : World) (before after_ : List Nat)
    (hb : ∀ oid ∈ (w.market! mid).blotter, HasOrder w oid)
    (h1 : ∀ B ∈ before, A ≠ B) (h2 : ∀ B ∈ after_, A ≠ B) :
    ∀ oid ∈ (w.market! mid).blotter, (w.order! oid).strategy = A →
      ((before ++ A :: after_).foldl (matchStrategy mid) w).order! oid = (matchStrategy mid w A).order! oid := by
  intro oid hin hsA
  rw [List.foldl_append, List.foldl_cons]
  -- the strategies before A
  have hv := untouched_fold mid A w hb before h1 w (Untouched.refl mid A w)
  generalize before.foldl (matchStrategy mid) w = v at hv
  have hown := own_step_agrees mid A w v hb hv oid hin hsA
  -- A's own step, then the strategies after A: base world u
  have hbv : ∀ oid ∈ (v.market! mid).blotter, HasOrder v oid := fun x hx =>
    hv.has x (hb x (OL.market!_congr w v hv.markets mid ▸ hx))
  have tu := matchStrategy_touch mid v A hbv
  generalize matchStrategy mid v A = u at hown tu
  have hmu : u.market! mid = w.market! mid := (OL.market!_congr v u tu.markets mid).trans (OL.market!_congr w v hv.markets mid)
  have hfin := untouched_fold mid A u (fun x hx => tu.has x (hbv x (OL.market!_congr v u tu.markets mid ▸ hx))) after_ h2 u (Untouched.refl mid A u)
  rw [hfin.same oid (hmu ▸ hin) ((tu.tag oid (hv.has oid (hb oid hin))).trans ((hv.tag oid (hb oid hin)).trans hsA))]
  exact hown

/-- C13 (registration order): in the isolated matching loop the orders of strategy A come out the same
    whether another strategy B was matched before them or not -/
theorem registration_order_irrelevant (w : World) (mid A B : Nat) (hAB : A ≠ B)
    (hb : ∀ oid ∈ (w.market! mid).blotter, HasOrder w oid) :
    ∀ oid ∈ (w.market! mid).blotter, (w.order! oid).strategy = A →
      (matchStrategy mid (matchStrategy mid w B) A).order! oid = (matchStrategy mid w A).order! oid := by
  have h := isolated_loop mid A w [B] [] hb (fun _ h => List.mem_singleton.mp h ▸ hAB) (fun _ h => nomatch h)
  simpa only [List.cons_append, List.nil_append, List.foldl_cons, List.foldl_nil] using h

/-- `isolated_loop` in every reachable state: its well-formedness hypothesis is an invariant of whole
    runs (`Inv.inv_reachable`), so the statement holds unconditionally after any history -/
theorem isolated_loop_reachable (cfg : Config) (cl : List Client) (ss : List Strategy)
    (us : List (Nat × Book × (Nat → List Action))) (mid A : Nat) (before after_ : List Nat)
    (h1 : ∀ B ∈ before, A ≠ B) (h2 : ∀ B ∈ after_, A ≠ B) :
    ∀ oid ∈ ((Inv.runUpdates { cfg := cfg, clients := cl, strategies := ss } us).market! mid).blotter,
      ((Inv.runUpdates { cfg := cfg, clients := cl, strategies := ss } us).order! oid).strategy = A →
      ((before ++ A :: after_).foldl (matchStrategy mid) (Inv.runUpdates { cfg := cfg, clients := cl, strategies := ss } us)).order! oid =
        (matchStrategy mid (Inv.runUpdates { cfg := cfg, clients := cl, strategies := ss } us) A).order! oid :=
  isolated_loop mid A _ before after_ ((Inv.inv_reachable cfg cl ss us).blotter_hasOrder mid) h1 h2


/-! ### non-vacuity -/

example : processBook (fun c => if c = ⟨.strategy 0, .check⟩ then .raised else .returned true) 2 true false
    [⟨0, true, true⟩, ⟨1, true, false⟩] =
    [⟨.middleware 0, .mw⟩, ⟨.middleware 1, .mw⟩, ⟨.strategy 0, .orders⟩, ⟨.strategy 0, .check⟩, ⟨.strategy 1, .check⟩, ⟨.strategy 1, .book⟩] := by
  decide +kernel


/-- two strategies with one resting order each on the same selection: the loop matches both, and the
    outcome for strategy 0 is that of matching strategy 0 alone (the hypotheses of `isolated_loop` hold) -/
def isoOrder (id strat : Nat) : Order :=
  { id := id, trade := id, strategy := strat, market := 1, sel := 1, status := some .executable, log := [.pending, .executable],
    betId := some (7 + id), sim := { side := .back, kind := .limit, price := 2, size := 10 } }
def isoWorld : World :=
  { orders := [isoOrder 0 0, isoOrder 1 1],
    trades := [{ id := 0, strategy := 0, market := 1, sel := 1, orders := [0] }, { id := 1, strategy := 1, market := 1, sel := 1, orders := [1] }],
    markets := [{ id := 1, blotter := [0, 1], live := [0, 1], hasAnalytics := true, analytics := [{ sel := 1, hc := 0, traded := [(2, 8)] }],
                  book := some { runners := [{ sel := 1, atb := [⟨3, 4⟩], atl := [⟨4, 4⟩] }] } }] }

example : ∀ oid ∈ (isoWorld.market! 1).blotter, HasOrder isoWorld oid := by
  intro oid h
  have : oid = 0 ∨ oid = 1 := by simpa [isoWorld, World.market!, World.market?] using h
  rcases this with rfl | rfl
  · exact ⟨isoOrder 0 0, rfl⟩
  · exact ⟨isoOrder 1 1, rfl⟩
example : (([1, 0].foldl (matchStrategy 1) isoWorld).order! 0).sim.matched = [⟨0, 2, 4⟩] := by decide +kernel
example : ((matchStrategy 1 isoWorld 0).order! 0).sim.matched = [⟨0, 2, 4⟩] := by decide +kernel

end Flumine.C13
