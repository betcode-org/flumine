/-
  C06 — Passive liquidity is never double counted; queue position is honoured.
  Model: SimOrder.calculateProcessTraded / processTraded (`_calculate_process_traded`,
  `_process_traded`) and `World.stableSortBy` (Mw.lean).  The one copy of the traded dict that
  `World.matchOrders` threads through the orders of a strategy (of the instance when isolation is off)
  is restated here as `shareDict`; no theorem relates the two.
-/
import Flumine.SimOrder
import Flumine.Mw
import Flumine.Props.C04
import Flumine.Lemmas.Shape
import Flumine.Lemmas.Round
import Flumine.Lemmas.Cents
import Mathlib.Tactic.Linarith
import Mathlib.Tactic.Ring
namespace Flumine.C06
open Flumine.SimOrder Flumine.C04

/-! ### C06.5 queue position -/

/-- while the volume queued ahead at arrival has not traded (half the reported amount), nothing is
    matched and the queue only shrinks by what traded -/
theorem queue_blocks (o : SimOrder) (pt : Int) (ts : Rat) (h : ts / 2 ≤ o.piq) :
    (o.calculateProcessTraded pt ts).1.matched = o.matched ∧
    (o.calculateProcessTraded pt ts).1.piq = o.piq - ts / 2 ∧
    (o.calculateProcessTraded pt ts).2 = ts := by
  rw [cpt_eq, if_neg (not_lt.mpr (sub_nonneg.mpr h))]
  exact ⟨rfl, rfl, rfl⟩

/-- the queue position never increases and stays non-negative -/
theorem queue_monotone (o : SimOrder) (pt : Int) (ts : Rat) (hq : 0 ≤ o.piq) (hts : 0 ≤ ts) :
    (o.calculateProcessTraded pt ts).1.piq ≤ o.piq ∧ 0 ≤ (o.calculateProcessTraded pt ts).1.piq := by
  rw [cpt_eq]
  by_cases h : o.piq - ts / 2 < 0
  · rw [if_pos h]
    show (0 : Rat) ≤ o.piq ∧ (0 : Rat) ≤ 0
    exact ⟨hq, le_refl _⟩
  · rw [if_neg h]
    exact ⟨sub_le_self _ (div_nonneg hts (by decide)), not_lt.mp h⟩

/-! ### C06.1 only eligible prices, at the limit price -/

/-- C06.1 passive fragments are created only from traded prices at or through the limit: when no
    entry of the traded dict is eligible, nothing is matched and the dict is untouched -/
theorem no_eligible_no_fill (pt : Int) (traded : List (Rat × Rat)) (o : SimOrder)
    (h : ∀ e ∈ traded, eligible o e.1 = false) :
    processTraded pt traded o = (o, traded) := by
  induction traded with
  | nil => rfl
  | cons x rest ih =>
    obtain ⟨tp, ts⟩ := x
    have hx : eligible o tp = false := h (tp, ts) List.mem_cons_self
    have hr := ih (fun e he => h e (List.mem_cons_of_mem _ he))
    simp only [processTraded, hx, Bool.false_eq_true, if_false, hr]

/-- all fragments added by passive matching are at the order's own limit price and stamped with the
    publish time of the update -/
theorem passive_frags_at_limit (pt : Int) (traded : List (Rat × Rat)) (o : SimOrder) :
    ∃ new, (processTraded pt traded o).1.matched = o.matched ++ new ∧
      ∀ f ∈ new, f.price = o.price ∧ f.pt = pt :=
  (processTraded_ind (P := fun o' => o'.price = o.price ∧ ∃ new, o'.matched = o.matched ++ new ∧ ∀ f ∈ new, f.price = o.price ∧ f.pt = pt) pt
    (fun o' ts ⟨hp, new, h1, h2⟩ => by
      refine ⟨(calculateProcessTraded_price o' pt ts).trans hp, ?_⟩
      rcases cpt_fst o' pt ts with ⟨q, h⟩ | ⟨_, _, h⟩ <;> replace h := congrArg SimOrder.matched h
      · exact ⟨new, h.trans h1, h2⟩
      · refine ⟨new ++ [⟨pt, o'.price, tradedSize o' ts⟩], h.trans ((congrArg (· ++ _) h1).trans (List.append_assoc ..)), fun f hf => ?_⟩
        rcases List.mem_append.mp hf with hf | hf
        · exact h2 f hf
        · rw [List.mem_singleton.mp hf]; exact ⟨hp, rfl⟩)
    traded o ⟨rfl, [], (List.append_nil _).symm, fun _ h => nomatch h⟩).2

/-! ### C06.3 no double counting: the potential-function argument -/

def sumVals (d : List (Rat × Rat)) : Rat := sumRat (d.map fun e => e.2)

def ValsNonneg (d : List (Rat × Rat)) : Prop := ∀ e ∈ d, 0 ≤ e.2

/-- what `_process_traded` writes back into an entry of `ts` of which the order reports `m` as consumed:
    `ts - m`, never below zero; the entry as it was when nothing is reported -/
def writeBack (ts m : Rat) : Rat := if m ≠ 0 then ratMax (ts - m) 0 else ts

def consumedTo (o : SimOrder) (pt : Int) (ts : Rat) : Rat := writeBack ts (o.calculateProcessTraded pt ts).2

theorem writeBack_bounds (ts m : Rat) (hts : 0 ≤ ts) (hm : 0 ≤ m) :
    0 ≤ writeBack ts m ∧ writeBack ts m ≤ ts ∧ (m ≤ ts - writeBack ts m ∨ writeBack ts m = 0) := by
  unfold writeBack
  by_cases h : m ≠ 0
  · rw [if_pos h]
    rcases le_total (ts - m) 0 with h1 | h1
    · rw [ratMax_eq_right h1]; exact ⟨le_refl _, hts, .inr rfl⟩
    · rw [ratMax_eq_left h1]; exact ⟨h1, sub_le_self ts hm, .inl (sub_sub_cancel ts m).ge⟩
  · rw [if_neg h, not_not.mp h]; exact ⟨hts, le_refl _, .inl (sub_self ts).ge⟩

-- `C04.Inv` by its full name: a bare `Inv` can also be read as Mathlib's class `Inv α`, and the elaborator tries that reading as well
theorem cpt_sizeMatched (o : SimOrder) (pt : Int) (ts : Rat) (hi : C04.Inv o) (hp : 0 < o.price) :
    (o.calculateProcessTraded pt ts).1.sizeMatched = o.sizeMatched + (if o.piq - ts / 2 < 0 then tradedSize o ts else 0) := by
  rw [cpt_eq]
  split_ifs with hq hz
  · exact (updateMatched_sizeMatched o ⟨pt, o.price, tradedSize o ts⟩ hi
      ⟨round2_isCents _, (tradedSize_bounds o ts hi hq).1, hp⟩).2
  · rw [not_not.mp hz]; exact (add_zero o.sizeMatched).symm
  · exact (add_zero o.sizeMatched).symm

theorem cpt_consumed (o : SimOrder) (pt : Int) (ts : Rat) :
    (o.calculateProcessTraded pt ts).2 = if o.piq - ts / 2 < 0 then (o.piq + tradedSize o ts) * 2 else ts := by
  rw [cpt_eq]; split <;> rfl

/-- the `1 / 100` is twice the rounding `1 / 200` of `tradedSize_bounds` -/
theorem entry_consumption (o : SimOrder) (pt : Int) (ts : Rat) (hi : C04.Inv o) (hp : 0 < o.price)
    (hq : 0 ≤ o.piq) (hts : 0 ≤ ts) :
    0 ≤ consumedTo o pt ts ∧ consumedTo o pt ts ≤ ts ∧
    2 * ((o.calculateProcessTraded pt ts).1.sizeMatched - o.sizeMatched) ≤ (ts - consumedTo o pt ts) + 1 / 100 := by
  unfold consumedTo
  rw [cpt_sizeMatched o pt ts hi hp, cpt_consumed, add_sub_cancel_left]
  by_cases hlt : o.piq - ts / 2 < 0
  · obtain ⟨h0, _, h2⟩ := tradedSize_bounds o ts hi hlt
    rw [if_pos hlt, if_pos hlt]
    obtain ⟨a, b, c⟩ := writeBack_bounds ts ((o.piq + tradedSize o ts) * 2) hts (mul_nonneg (add_nonneg hq h0) zero_le_two)
    refine ⟨a, b, ?_⟩
    -- what the order reports as consumed covers twice what it matched, and is a penny above the entry at most
    have h3 : 2 * tradedSize o ts ≤ (o.piq + tradedSize o ts) * 2 :=
      (mul_comm ..).trans_le (mul_le_mul_of_nonneg_right (le_add_of_nonneg_left hq) zero_le_two)
    have h4 : (o.piq + tradedSize o ts) * 2 ≤ ts + 1 / 100 :=
      (mul_le_mul_of_nonneg_right (add_le_add_right h2 o.piq) zero_le_two).trans_eq (by ring)
    -- so either the entry shrank by that much, or it is empty now
    rcases c with c | c
    · exact h3.trans (c.trans (le_add_of_nonneg_right (by norm_num)))
    · rw [c, sub_zero]; exact h3.trans h4
  · rw [if_neg hlt, if_neg hlt, mul_zero]
    obtain ⟨a, b, _⟩ := writeBack_bounds ts ts hts hts
    exact ⟨a, b, add_nonneg (sub_nonneg.mpr b) (by norm_num)⟩

theorem processTraded_cons (pt : Int) (tp ts : Rat) (rest : List (Rat × Rat)) (o : SimOrder) (hi : C04.Inv o) (hp : 0 < o.price)
    (hq : 0 ≤ o.piq) (hts : 0 ≤ ts) :
    ∃ o1 c, processTraded pt ((tp, ts) :: rest) o = ((processTraded pt rest o1).1, (tp, c) :: (processTraded pt rest o1).2) ∧
      C04.Inv o1 ∧ 0 < o1.price ∧ 0 ≤ o1.piq ∧ 0 ≤ c ∧ c ≤ ts ∧ 2 * (o1.sizeMatched - o.sizeMatched) ≤ ts - c + 1 / 100 := by
  by_cases he : eligible o tp = true
  · obtain ⟨e1, e2, e3⟩ := entry_consumption o pt ts hi hp hq hts
    exact ⟨(o.calculateProcessTraded pt ts).1, consumedTo o pt ts,
      by rw [processTraded_cons_eq, if_pos he]; rfl,
      (calculateProcessTraded_inv o pt ts hi hp).1, by rw [calculateProcessTraded_price]; exact hp,
      (queue_monotone o pt ts hq hts).2, e1, e2, e3⟩
  · exact ⟨o, ts, by rw [processTraded_cons_eq, if_neg he],
      hi, hp, hq, hts, le_refl _, by rw [sub_self, sub_self, mul_zero, zero_add]; exact div_nonneg zero_le_one (by decide)⟩

/-- The shape of `no_double_count`, the potential-function statement: from dict `d` to `d'` no entry goes negative, none is
    added, dropped or grown, and twice the newly matched `x` is covered by what the dict lost, up to `n` pennies of rounding.
    It composes entry after entry (`Funds.cons`: one order walks down the dict) and order after order (`Funds.trans`: the next
    order starts from `d'`). -/
def Funds (d d' : List (Rat × Rat)) (x : Rat) (n : Nat) : Prop :=
  ValsNonneg d' ∧ d'.length = d.length ∧ sumVals d' ≤ sumVals d ∧ 2 * x ≤ (sumVals d - sumVals d') + (n : Rat) / 100

theorem Funds.refl {d : List (Rat × Rat)} (hd : ValsNonneg d) : Funds d d 0 0 := ⟨hd, rfl, le_rfl, by simp⟩

-- on variables: `linarith` is three times dearer with the fractions `n / 100` in sight (as in `IsRoundHalfEven.up`)
theorem covers_add {x y g h e f : Rat} (h1 : 2 * x ≤ g + e) (h2 : 2 * y ≤ h + f) : 2 * (x + y) ≤ g + h + (e + f) := by
  linarith only [h1, h2]

theorem Funds.cons {d d' : List (Rat × Rat)} {tp ts c x y : Rat} {n : Nat} (h0 : 0 ≤ c) (h1 : c ≤ ts) (h2 : 2 * x ≤ ts - c + 1 / 100)
    (h : Funds d d' y n) : Funds ((tp, ts) :: d) ((tp, c) :: d') (x + y) (n + 1) := by
  obtain ⟨i1, i2, i3, i4⟩ := h
  refine ⟨fun e he => ?_, by rw [List.length_cons, List.length_cons, i2], add_le_add h1 i3, ?_⟩
  · rcases List.mem_cons.mp he with rfl | he
    · exact h0
    · exact i1 e he
  · show 2 * (x + y) ≤ ts + sumVals d - (c + sumVals d') + ((n + 1 : Nat) : Rat) / 100
    rw [add_sub_add_comm, Nat.cast_succ, add_div, add_comm (_ / _)]
    exact covers_add h2 i4

theorem Funds.trans {d d' d'' : List (Rat × Rat)} {x y : Rat} {n m : Nat} (h1 : Funds d d' x n) (h2 : Funds d' d'' y m) :
    Funds d d'' (x + y) (n + m) := by
  refine ⟨h2.1, h2.2.1.trans h1.2.1, h2.2.2.1.trans h1.2.2.1, ?_⟩
  rw [← sub_add_sub_cancel (sumVals d) (sumVals d'), Nat.cast_add, add_div]
  exact covers_add h1.2.2.2 h2.2.2.2

/-- C06.3 for one order: twice what it matches out of an update is covered by the volume it writes back as
    consumed, plus one penny of rounding per dict entry -/
theorem order_consumption (pt : Int) (traded : List (Rat × Rat)) (o : SimOrder) (hi : C04.Inv o) (hp : 0 < o.price)
    (hq : 0 ≤ o.piq) (hv : ValsNonneg traded) :
    Funds traded (processTraded pt traded o).2 ((processTraded pt traded o).1.sizeMatched - o.sizeMatched) traded.length := by
  induction traded generalizing o with
  | nil => exact (sub_self o.sizeMatched).symm ▸ Funds.refl hv
  | cons x rest ih =>
    obtain ⟨tp, ts⟩ := x
    obtain ⟨o1, c, e, j1, j2, j3, c0, c1, c2⟩ :=
      processTraded_cons pt tp ts rest o hi hp hq (hv (tp, ts) List.mem_cons_self)
    rw [e, ← sub_add_sub_cancel' o1.sizeMatched]
    exact .cons c0 c1 c2 (ih o1 j1 j2 j3 fun e he => hv e (List.mem_cons_of_mem _ he))

/-- several orders consuming **one** copy of the traded dict, one after the other (what
    `_process_simulated_orders` does for the orders of one strategy on one runner) -/
def shareDict (pt : Int) : List SimOrder → List (Rat × Rat) → List SimOrder × List (Rat × Rat)
  | [], d => ([], d)
  | o :: os, d =>
    let r := processTraded pt d o
    let rs := shareDict pt os r.2
    (r.1 :: rs.1, rs.2)

def matchedTotal (os : List SimOrder) : Rat := sumRat (os.map (·.sizeMatched))

/-- C06.3 **no double counting**: for any number of orders sharing one copy of the traded dict,
    the total newly matched out of one update is at most half the traded volume of that update
    (all of which is consumed through the shared, shrinking dict) plus half a penny of rounding per
    order and dict entry. -/
theorem no_double_count (pt : Int) (os : List SimOrder) (traded : List (Rat × Rat))
    (hi : ∀ o ∈ os, Inv o ∧ 0 < o.price ∧ 0 ≤ o.piq) (hv : ValsNonneg traded) :
    ValsNonneg (shareDict pt os traded).2 ∧ (shareDict pt os traded).2.length = traded.length ∧
    sumVals (shareDict pt os traded).2 ≤ sumVals traded ∧
    2 * (matchedTotal (shareDict pt os traded).1 - matchedTotal os) ≤
      (sumVals traded - sumVals (shareDict pt os traded).2) + ((os.length * traded.length : Nat) : Rat) / 100 := by
  show Funds traded (shareDict pt os traded).2 (matchedTotal (shareDict pt os traded).1 - matchedTotal os) (os.length * traded.length)
  induction os generalizing traded with
  | nil => exact (sub_self (matchedTotal [])).symm ▸ (Nat.zero_mul traded.length).symm ▸ Funds.refl hv
  | cons o rest ih =>
    obtain ⟨ho, hp, hq⟩ := hi o List.mem_cons_self
    have a := order_consumption pt traded o ho hp hq hv
    have b := ih (processTraded pt traded o).2 (fun x hx => hi x (List.mem_cons_of_mem _ hx)) a.1
    rw [a.2.1] at b
    -- `a.trans b`, its `x + y` and `n + m` brought to the form of the goal
    have := a.trans b
    rwa [Nat.add_comm, ← Nat.succ_mul, ← add_sub_add_comm] at this

/-! ### C06.4 better price first -/

theorem insertBy_sorted (key : Order → Rat) (o : Order) (l : List Order)
    (h : l.Pairwise fun a b => key a ≤ key b) :
    (World.insertBy key o l).Pairwise fun a b => key a ≤ key b := by
  induction l with
  | nil => simp [World.insertBy]
  | cons x xs ih =>
    unfold World.insertBy
    have hx := List.pairwise_cons.mp h
    split_ifs with hlt
    · refine List.pairwise_cons.mpr ⟨?_, h⟩
      intro y hy
      rcases List.mem_cons.mp hy with rfl | hy
      · exact le_of_lt hlt
      · exact le_trans (le_of_lt hlt) (hx.1 y hy)
    · refine List.pairwise_cons.mpr ⟨?_, ih hx.2⟩
      intro y hy
      rcases World.mem_insertBy key o y xs hy with rfl | hy
      · exact not_lt.mp hlt
      · exact hx.1 y hy

/-- C06.4 the order in which the orders of a group are served: ascending in the sort key — LAY orders
    by descending price, then BACK orders by ascending price (`-price` resp. `price` as key) — so
    when the eligible volume does not suffice the order offering the better price to the other side
    is served first. -/
theorem stableSortBy_sorted (key : Order → Rat) (l : List Order) :
    (World.stableSortBy key l).Pairwise fun a b => key a ≤ key b :=
  List.foldlRecOn l _ (motive := fun acc => acc.Pairwise fun a b => key a ≤ key b) List.Pairwise.nil
    fun acc h o _ => insertBy_sorted key o acc h

/-- non-vacuity: two resting orders sharing ten units of traded volume at one price -/
example :
    let o : SimOrder := { side := .back, kind := .limit, price := 2, size := 4 }
    ((shareDict 7 [o, o] [(3, 10)]).1.map (·.sizeMatched), (shareDict 7 [o, o] [(3, 10)]).2) = ([4, 1], [(3, 0)]) := by
  decide +kernel

end Flumine.C06
