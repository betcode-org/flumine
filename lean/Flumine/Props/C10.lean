/-
  C10 — Trade and runner accounting follows the real state of the orders.
  Model: World.lean — RunnerCtx.place / reset, tradeComplete / completeTrade / tradeUpdateStatus,
  orderUpdateStatus and the status setters, validateOrderCtx (`BaseStrategy.validate_order`).
-/
import Flumine.World
import Flumine.Txn
import Flumine.Lemmas.ListAux
import Mathlib.Tactic.Linarith
namespace Flumine.C10
open Flumine.World

/-! ### runner context bookkeeping -/

/-- the context's lists hold each trade at most once -/
def CtxOk (c : RunnerCtx) : Prop := c.trades.Nodup ∧ c.liveTrades.Nodup

/-- `if t not in l: l.append(t)` as the model writes it -/
theorem addOnce_spec (l : List Nat) (t : Nat) :
    (l.Nodup → (if l.contains t then l else l ++ [t]).Nodup) ∧
    (∀ x, x ∈ (if l.contains t then l else l ++ [t]) ↔ x = t ∨ x ∈ l) ∧
    (if l.contains t then l else l ++ [t]).length = if l.contains t then l.length else l.length + 1 := by
  by_cases hc : l.contains t = true
  · rw [if_pos hc, if_pos hc]
    exact ⟨id, fun x => ⟨.inr, fun h => h.elim (fun e => e ▸ List.contains_iff_mem.mp hc) id⟩, rfl⟩
  · rw [if_neg hc, if_neg hc]
    have hn : t ∉ l := fun hm => hc (List.contains_iff_mem.mpr hm)
    refine ⟨fun h => nodup_snoc h hn, fun x => ?_, List.length_append⟩
    rw [List.mem_append, List.mem_singleton, or_comm]

theorem addOnce_le (l : List Nat) (t : Nat) {n : Nat} (hle : l.length ≤ n) (hfull : l.length = n → l.contains t = true) :
    (if l.contains t then l else l ++ [t]).length ≤ n := by
  rw [(addOnce_spec l t).2.2]
  split_ifs with hc
  · exact hle
  · exact Nat.succ_le_of_lt (lt_of_le_of_ne hle fun e => hc (hfull e))

theorem place_ok (c : RunnerCtx) (now : Time) (t : Nat) (h : CtxOk c) : CtxOk (c.place now t) :=
  ⟨(addOnce_spec c.trades t).1 h.1, (addOnce_spec c.liveTrades t).1 h.2⟩

/-- C10 placing charges the trade: afterwards it is in `trades` and in `live_trades`, nothing else
    changes and nothing is ever removed by a placement -/
theorem place_spec (c : RunnerCtx) (now : Time) (t : Nat) :
    t ∈ (c.place now t).trades ∧ t ∈ (c.place now t).liveTrades ∧
    (∀ x, x ∈ (c.place now t).trades ↔ x = t ∨ x ∈ c.trades) ∧
    (∀ x, x ∈ (c.place now t).liveTrades ↔ x = t ∨ x ∈ c.liveTrades) ∧
    (c.place now t).lastPlaced = some now :=
  ⟨((addOnce_spec c.trades t).2.1 t).mpr (.inl rfl), ((addOnce_spec c.liveTrades t).2.1 t).mpr (.inl rfl),
    (addOnce_spec c.trades t).2.1, (addOnce_spec c.liveTrades t).2.1, rfl⟩

theorem place_counts (c : RunnerCtx) (now : Time) (t : Nat) :
    (c.place now t).trades.length = (if c.trades.contains t then c.trades.length else c.trades.length + 1) ∧
    (c.place now t).liveTrades.length =
      (if c.liveTrades.contains t then c.liveTrades.length else c.liveTrades.length + 1) :=
  ⟨(addOnce_spec c.trades t).2.2, (addOnce_spec c.liveTrades t).2.2⟩

/-- C10 a reset frees exactly that trade's slot: it leaves `live_trades`, every other live trade
    stays, `trades` (the count of distinct trades placed) is untouched -/
theorem reset_spec (c : RunnerCtx) (now : Time) (t : Nat) (h : CtxOk c) :
    t ∉ (c.reset now t).liveTrades ∧
    (∀ x, x ≠ t → (x ∈ (c.reset now t).liveTrades ↔ x ∈ c.liveTrades)) ∧
    (c.reset now t).trades = c.trades ∧ CtxOk (c.reset now t) := by
  unfold RunnerCtx.reset
  by_cases hc : c.liveTrades.contains t = true
  · rw [if_pos hc]
    refine ⟨?_, ?_, rfl, ⟨h.1, ?_⟩⟩
    · show t ∉ c.liveTrades.erase t
      exact fun hm => (List.Nodup.mem_erase_iff h.2).mp hm |>.1 rfl
    · intro x hx
      show x ∈ c.liveTrades.erase t ↔ x ∈ c.liveTrades
      rw [List.Nodup.mem_erase_iff h.2]
      exact and_iff_right hx
    · show (c.liveTrades.erase t).Nodup
      exact h.2.erase t
  · rw [if_neg hc]
    have : t ∉ c.liveTrades := fun hm => hc (List.contains_iff_mem.mpr hm)
    exact ⟨this, fun x _ => Iff.rfl, rfl, h⟩

/-! ### limits -/

theorem inside_iff (last : Option Time) (now : Time) (lim : Rat) :
    (match last.map (elapsedSeconds now) with | some e => decide (e < lim) | none => false) = true ↔
      ∃ r, last = some r ∧ elapsedSeconds now r < lim := by
  cases last <;> simp

/-- what a pass of `validate_order` outside the multi-order shortcut says of the runner's context `c` and the trade `t` at time
    `now`: neither cool-down test and neither count test fired (a list at its limit passes only if it holds the trade already) -/
structure Passed (s : Strategy) (c : RunnerCtx) (t : Trade) (now : Time) : Prop where
  reset : ∀ r, c.lastReset = some r → t.resetSeconds ≤ elapsedSeconds now r
  placed : ∀ p, c.lastPlaced = some p → t.placeResetSeconds ≤ elapsedSeconds now p
  trades : c.trades.length ≤ s.maxTrade ∧ (c.trades.length = s.maxTrade → c.trades.contains t.id = true)
  live : c.liveTrades.length ≤ s.maxLive ∧ (c.liveTrades.length = s.maxLive → c.liveTrades.contains t.id = true)

/-- The outcomes of `validate_order`, for a property T of its answer, in the order of its tests: the multi-order shortcut, inside
    the cool-down after a reset, the three other refusals, a pass. -/
theorem validateOrderCtx_cases (w : World) (s : Strategy) (o : Order) (T : Option String → Prop) :
    let t := w.trade! o.trade
    let c := w.ctx ⟨o.strategy, o.market, o.sel, o.hc⟩
    (s.multiOrder = true → c.liveTrades.contains t.id = true → T none) →
    (∀ r, c.lastReset = some r → elapsedSeconds w.clock r < t.resetSeconds → T (some "reset_elapsed_seconds")) →
    T (some "placed_elapsed_seconds") → T (some "trade_count") → T (some "live_trade_count") →
    (Passed s c t w.clock → T none) → T (w.validateOrderCtx s o) := by
  intro t c shortcut reset placed trades live pass
  unfold validateOrderCtx
  extract_lets
  -- (`split` would go for the `match` inside the cool-down tests)
  refine iteInduction (motive := T) (fun h0 => ?_) fun _ => ?_
  · exact shortcut (Bool.and_eq_true _ _ ▸ h0).1 (Bool.and_eq_true _ _ ▸ h0).2
  refine iteInduction (motive := T) (fun h1 => ?_) fun h1 => ?_
  · obtain ⟨r, hr, hlt⟩ := (inside_iff ..).mp h1
    exact reset r hr hlt
  refine iteInduction (motive := T) (fun _ => placed) fun h2 => ?_
  refine iteInduction (motive := T) (fun _ => trades) fun h3 => ?_
  refine iteInduction (motive := T) (fun _ => live) fun h4 => ?_
  simp only [not_or, not_and, Bool.not_eq_true', Bool.not_eq_false, not_lt] at h3 h4
  exact pass ⟨fun r hr => not_lt.mp fun hlt => h1 ((inside_iff ..).mpr ⟨r, hr, hlt⟩),
    fun p hp => not_lt.mp fun hlt => h2 ((inside_iff ..).mpr ⟨p, hp, hlt⟩), ⟨h3.2, h3.1⟩, ⟨h4.2, h4.1⟩⟩

theorem validate_pass (w : World) (s : Strategy) (o : Order)
    (hok : w.validateOrderCtx s o = none)
    (hshort : ¬ (s.multiOrder = true ∧ (w.ctx ⟨o.strategy, o.market, o.sel, o.hc⟩).liveTrades.contains (w.trade! o.trade).id = true)) :
    Passed s (w.ctx ⟨o.strategy, o.market, o.sel, o.hc⟩) (w.trade! o.trade) w.clock :=
  validateOrderCtx_cases w s o (fun x => x = none → _) (fun h1 h2 _ => absurd ⟨h1, h2⟩ hshort) (fun _ _ _ => nofun) nofun nofun nofun
    (fun h _ => h) hok

/-- C10.3 an unforced placement that `validate_order` lets through (outside the multi-order
    shortcut) keeps the runner within both limits once the trade is charged -/
theorem limits_respected (w : World) (s : Strategy) (o : Order)
    (hok : w.validateOrderCtx s o = none)
    (hshort : ¬ (s.multiOrder = true ∧ (w.ctx ⟨o.strategy, o.market, o.sel, o.hc⟩).liveTrades.contains (w.trade! o.trade).id = true)) :
    ((w.ctx ⟨o.strategy, o.market, o.sel, o.hc⟩).place w.clock (w.trade! o.trade).id).trades.length ≤ s.maxTrade ∧
    ((w.ctx ⟨o.strategy, o.market, o.sel, o.hc⟩).place w.clock (w.trade! o.trade).id).liveTrades.length ≤ s.maxLive := by
  have h := validate_pass w s o hok hshort
  exact ⟨addOnce_le _ _ h.trades.1 h.trades.2, addOnce_le _ _ h.live.1 h.live.2⟩

/-- C10.3 (cool-downs) an unforced placement that `validate_order` lets through (outside the multi-order
    shortcut) is outside both cool-down windows: at least `reset_seconds` have passed on the clock since
    the last completed trade on the runner and at least `place_reset_seconds` since the last placement.
    No exception at an elapsed time of exactly zero - a trade that completes at an update and a placement
    in the callback of that same update - since fix F25 (before it the guard was a truthiness test and the
    statement needed the hypothesis `elapsed ≠ 0`). -/
theorem cool_downs_respected (w : World) (s : Strategy) (o : Order)
    (hok : w.validateOrderCtx s o = none)
    (hshort : ¬ (s.multiOrder = true ∧ (w.ctx ⟨o.strategy, o.market, o.sel, o.hc⟩).liveTrades.contains (w.trade! o.trade).id = true)) :
    (∀ r, (w.ctx ⟨o.strategy, o.market, o.sel, o.hc⟩).lastReset = some r →
        (w.trade! o.trade).resetSeconds ≤ elapsedSeconds w.clock r) ∧
    (∀ p, (w.ctx ⟨o.strategy, o.market, o.sel, o.hc⟩).lastPlaced = some p →
        (w.trade! o.trade).placeResetSeconds ≤ elapsedSeconds w.clock p) :=
  ⟨(validate_pass w s o hok hshort).reset, (validate_pass w s o hok hshort).placed⟩

/-- C10.3 (converse: no lock-out by a cool-down) a placement refused with the reason `reset_elapsed_seconds` really is inside
    the window after a completed trade -/
theorem cool_down_refusal_is_inside (w : World) (s : Strategy) (o : Order)
    (h : w.validateOrderCtx s o = some "reset_elapsed_seconds") :
    ∃ r, (w.ctx ⟨o.strategy, o.market, o.sel, o.hc⟩).lastReset = some r ∧
      elapsedSeconds w.clock r < (w.trade! o.trade).resetSeconds :=
  validateOrderCtx_cases w s o (fun x => x = some "reset_elapsed_seconds" → _) (fun _ _ => nofun) (fun r hr hlt _ => ⟨r, hr, hlt⟩)
    (fun e => absurd e (by decide)) (fun e => absurd e (by decide)) (fun e => absurd e (by decide)) (fun _ => nofun) h

/-- the premises are met by a state inside a cool-down's complement and the conclusion is not vacuous: a runner whose last
    trade completed 30 s ago accepts a trade with `reset_seconds = 30`, and refuses it at 0 s and at 0.5 s -/
def wCool (now : Time) : World :=
  { clock := now,
    strategies := [{ id := 0 }],
    trades := [{ id := 0, strategy := 0, market := 0, sel := 1, hc := 0, resetSeconds := 30 }],
    ctxs := [{ key := ⟨0, 0, 1, 0⟩, trades := [7], lastReset := some 1000, lastPlaced := some 500 }] }

def oCool : Order := { id := 0, trade := 0, strategy := 0, market := 0, sel := 1, hc := 0, sim := { side := .back, kind := .limit, price := 2, size := 4 } }

example : (wCool 31000).validateOrderCtx { id := 0 } oCool = none := by decide +kernel
example : (wCool 1000).validateOrderCtx { id := 0 } oCool = some "reset_elapsed_seconds" := by decide +kernel
example : (wCool 1500).validateOrderCtx { id := 0 } oCool = some "reset_elapsed_seconds" := by decide +kernel

/-! ### trade completion -/

/-- C10.2 `Trade.complete` is true exactly when the trade is LIVE, not flagged pending_orders and
    every one of its orders is complete -/
theorem tradeComplete_iff (w : World) (t : Trade) :
    w.tradeComplete t = true ↔
      (t.status = .live ∧ t.pendingOrders = false ∧ ∀ oid ∈ t.orders, (w.order! oid).complete = true) := by
  unfold tradeComplete
  rw [Bool.and_eq_true, Bool.and_eq_true, decide_eq_true_iff, Bool.not_eq_true', List.all_eq_true, and_assoc]

/-- never while one of its orders is still live -/
theorem no_complete_with_live_order (w : World) (t : Trade) (oid : Nat) (hm : oid ∈ t.orders)
    (hl : (w.order! oid).complete = false) : w.tradeComplete t = false := by
  refine Bool.eq_false_iff.mpr fun h => ?_
  have := ((tradeComplete_iff w t).mp h).2.2 oid hm
  rw [hl] at this
  cases this

/-- the status log of a trade only gains COMPLETE through `complete_trade` -/
theorem tradeUpdateStatus_log (w : World) (tid : Nat) (s : TradeStatus) (hs : s ≠ .complete)
    (hex : (w.trade? tid).isSome) :
    let t := w.trade! tid
    let t' := { t with status := s, log := t.log ++ [s] }
    (w.tradeUpdateStatus tid s) =
      if (w.setTrade t').tradeComplete t' then (w.setTrade t').completeTrade tid else w.setTrade t' := rfl

/-- C10.2/F4 finality: `executable()` on a completed order changes neither its status nor its log
    (a late FAILURE / TIMEOUT report or a package reset cannot re-open it and so cannot re-open its trade) -/
theorem executable_on_complete_noop (w : World) (oid : Nat) (hc : (w.order! oid).complete = true) :
    w.orderExecutable oid = w.modifyOrder oid fun o => { o with ud := {} } :=
  if_pos hc

/-- statuses that count as complete / live, from the regenerated lists of order.py -/
theorem complete_statuses : Gen.orderCompleteStatus = [.executionComplete, .expired, .violation] := by decide
theorem live_statuses : Gen.orderLiveStatus = [.pending, .cancelling, .updating, .replacing, .executable] := by decide

theorem statusComplete_table :
    statusComplete .executionComplete = true ∧ statusComplete .expired = true ∧ statusComplete .violation = true ∧
    statusComplete .pending = false ∧ statusComplete .executable = false ∧ statusComplete .cancelling = false ∧
    statusComplete .updating = false ∧ statusComplete .replacing = false := by decide

/-! ### F2 (fixed) / F10: a refused request on a live order -/

def w0 : World :=
  { clock := 5,
    orders := [{ id := 0, trade := 0, strategy := 0, market := 1, sel := 7, client := some 0, status := some .executable,
                 log := [.pending, .executable], betId := some 1, inBlotter := true,
                 sim := { side := .back, kind := .limit, price := 2, size := 4 } }],
    trades := [{ id := 0, strategy := 0, market := 1, sel := 7, orders := [0], log := [.pending, .live] }],
    ctxs := [{ key := ⟨0, 1, 7, 0⟩, trades := [0], liveTrades := [0] }] }

/-- fix 0b9ab18: a control refusing a request on an order that is at the exchange leaves it alone (before
    the fix the order was marked VIOLATION, counted as complete, and - a VIOLATION never completes a
    trade - the runner slot stayed taken for ever) -/
theorem violation_on_sent_order_noop (w : World) (oid : Nat) (msg : String) (s : Status)
    (h : (w.order! oid).status = some s) (hs : s ≠ .violation) : w.orderViolation oid msg = w := by
  unfold orderViolation
  rw [if_pos]
  rw [h]; exact ⟨rfl, by intro e; exact hs (Option.some.inj e)⟩

theorem no_lockout_witness :
    let w := w0.orderViolation 0 "refused cancel"
    (w.order! 0).complete = false ∧ (w.order! 0).status = some .executable ∧ (w.ctx ⟨0, 1, 7, 0⟩).liveTrades = [0] := by
  decide +kernel

/-- `no_lockout_partial`: when the completing status is not VIOLATION the slot is freed -/
theorem no_lockout_partial :
    let w := w0.orderExecutionComplete 0
    (w.order! 0).complete = true ∧ (w.ctx ⟨0, 1, 7, 0⟩).liveTrades = [] ∧ (w.trade! 0).status = .complete := by
  decide +kernel

end Flumine.C10
