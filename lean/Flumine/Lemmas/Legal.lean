/- Lemmas/Legal.lean — every status step that the simulated execution appends to an order's status log is a
   legal step (`legal'`): `LX w w'` says that from w to w' the log of every order of w was extended by
   a legal path starting at its status.  Proved for the status setters, the response handlers and the execution of a whole
   package (the orders of the package being distinct, in flight or complete), for middleware, completion loop and closure
   (on orders of blotters, which are sent), for requests (an accepted one finds the order EXECUTABLE or unsent); then, on
   top of the invariants of `Flight` and `Strand`, for whole runs: every log is a legal path from "no status" (`LL`). -/
import Flumine.Lemmas.Strand
namespace Flumine.Legal
open Flumine.World Flumine.OL Flumine.Ids Flumine.Inv Flumine.Settle Flumine.Strand
open Flumine.Rules (Steps Blotters Requests Carried Acted Accepts)

/-- the documented lifecycle (`C03.legal`) plus the two steps of an order that never left: a refused order (VIOLATION)
    may be submitted again (PENDING) or refused again (VIOLATION) -/
def legal' (s : Option Status) (t : Status) : Bool :=
  C03.legal s t || (s == some .violation && (t == .pending || t == .violation))

/-- `chain s path`: every step of `path`, started at status `s`, is legal -/
def chain : Option Status → List Status → Bool
  | _, [] => true
  | s, t :: r => legal' s t && chain (some t) r

/-- the status after walking `path` from `s` -/
def lastOr : Option Status → List Status → Option Status
  | s, [] => s
  | _, t :: r => lastOr (some t) r

theorem chain_append (s : Option Status) (p q : List Status) : chain s (p ++ q) = (chain s p && chain (lastOr s p) q) := by
  induction p generalizing s with
  | nil => simp [chain, lastOr]
  | cons t r ih => simp [chain, lastOr, ih, Bool.and_assoc]

theorem lastOr_append (s : Option Status) (p q : List Status) : lastOr s (p ++ q) = lastOr (lastOr s p) q := by
  induction p generalizing s with
  | nil => simp [lastOr]
  | cons t r ih => simp [lastOr, ih]

def Ext (o o' : Order) : Prop :=
  ∃ path, o'.log = o.log ++ path ∧ chain o.status path = true ∧ o'.status = lastOr o.status path

theorem Ext.refl (o : Order) : Ext o o := ⟨[], by simp, rfl, rfl⟩

theorem Ext.of_same {o o' : Order} (hs : o'.status = o.status) (hl : o'.log = o.log) : Ext o o' :=
  ⟨[], by simp [hl], rfl, by simp [lastOr, hs]⟩

theorem Ext.trans {a b c : Order} (h1 : Ext a b) (h2 : Ext b c) : Ext a c := by
  obtain ⟨p, hp1, hp2, hp3⟩ := h1
  obtain ⟨q, hq1, hq2, hq3⟩ := h2
  refine ⟨p ++ q, by rw [hq1, hp1, List.append_assoc], ?_, by rw [hq3, hp3, lastOr_append]⟩
  rw [chain_append, hp2, ← hp3, hq2]; rfl

theorem Ext.step (o : Order) (now : Time) (s : Status) (hl : legal' o.status s = true) : Ext o (stamped o now s) :=
  ⟨[s], rfl, by simp [chain, hl], rfl⟩

/-- (`ext` is asked of every id: for one that names no order `order!` is the default order - no status, empty log - so for an
    order created on the way it says that its whole log is a legal path from "no status") -/
structure LX (w w' : World) : Prop where
  has : ∀ oid, HasOrder w oid → HasOrder w' oid
  ext : ∀ oid, Ext (w.order! oid) (w'.order! oid)

theorem LX.refl (w : World) : LX w w := ⟨fun _ h => h, fun _ => Ext.refl _⟩

theorem LX.trans {a b c : World} (h1 : LX a b) (h2 : LX b c) : LX a c :=
  ⟨fun oid h => h2.has oid (h1.has oid h), fun oid => (h1.ext oid).trans (h2.ext oid)⟩

theorem LX.of_eq {w w' : World} (h : w'.orders = w.orders) : LX w w' :=
  ⟨fun oid ho => (hasOrder_congr w w' h oid).mpr ho, fun oid => by rw [order!_congr w w' h oid]; exact Ext.refl _⟩

theorem LX.of_eff {S : List Kind} {w w' : World} (h : Eff S w w') (hS : Kind.Disj S [Kind.setOrder, Kind.newOrder] := by decide) : LX w w' :=
  ⟨fun oid ho => h.keeps.hasOrder oid ho, fun oid =>
    Ext.of_same (Order.status_of_core (h.cores oid hS)) (Order.log_of_core (h.cores oid hS))⟩

theorem _root_.Flumine.Calm.lx {w w' : World} (h : Calm w w') : LX w w' :=
  ⟨fun oid ho => (h.hasOrder oid).mpr ho, fun oid => Ext.of_same (h.status oid) (h.log oid)⟩

theorem lx_orderUpdateStatus (w : World) (a : Nat) (s : Status) (ha : HasOrder w a) (hl : legal' (w.order! a).status s = true) :
    LX w (w.orderUpdateStatus a s) := by
  refine ⟨fun oid ho => hasOrder_orderUpdateStatus w oid a s ho, fun oid => ?_⟩
  by_cases e : oid = a
  · rw [e, orderUpdateStatus_self w a s ha]; exact Ext.step _ _ _ hl
  · rw [orderUpdateStatus_other w oid a s ha e]; exact Ext.refl _

theorem lx_orderExecutable (w : World) (a : Nat) (ha : HasOrder w a)
    (hl : (w.order! a).complete = true ∨ legal' (w.order! a).status .executable = true) : LX w (w.orderExecutable a) :=
  Rules.orderExecutable Calm.lx LX.trans w a fun hnc => lx_orderUpdateStatus w a .executable ha (hl.resolve_left hnc)

theorem lx_orderExecutionComplete (w : World) (a : Nat) (ha : HasOrder w a)
    (hl : legal' (w.order! a).status .executionComplete = true) : LX w (w.orderExecutionComplete a) :=
  Rules.orderExecutionComplete Calm.lx LX.trans w a (lx_orderUpdateStatus w a .executionComplete ha hl)

/-! ### the state of an order a handler is about to handle -/

/-- in flight and not complete, or EXECUTION_COMPLETE and complete: every status from which both outcomes of a handler
    (`executable()`, `execution_complete()`) are legal steps or no step at all -/
def Pre (o : Order) : Prop :=
  ((o.status = some .pending ∨ o.status = some .cancelling ∨ o.status = some .updating ∨ o.status = some .replacing) ∧ o.complete = false) ∨
  (o.status = some .executionComplete ∧ o.complete = true)

theorem Pre.executable {o : Order} (h : Pre o) : o.complete = true ∨ legal' o.status .executable = true := by
  rcases h with ⟨h | h | h | h, _⟩ | ⟨_, h⟩
  · right; rw [h]; decide
  · right; rw [h]; decide
  · right; rw [h]; decide
  · right; rw [h]; decide
  · left; exact h

theorem Pre.complete {o : Order} (h : Pre o) : legal' o.status .executionComplete = true := by
  rcases h with ⟨h | h | h | h, _⟩ | ⟨h, _⟩ <;> rw [h] <;> decide

theorem pre_same {x : Nat} {w w' : World} (h : Same x w w') (hp : Pre (w.order! x)) : Pre (w'.order! x) := by
  unfold Pre at hp ⊢; rw [h.1, h.2]; exact hp

/-! ### the handler steps -/

theorem lxSteps : Steps LX (fun _ w a => HasOrder w a ∧ Pre (w.order! a)) where
  calm := Calm.lx
  trans := LX.trans
  hcalm := fun k h => ⟨(k.hasOrder _).mpr h.1, pre_same ⟨k.status _, k.complete _⟩ h.2⟩
  exe := fun h => lx_orderExecutable _ _ h.1 h.2.executable
  ec := fun h => lx_orderExecutionComplete _ _ h.1 h.2.complete

/-! ### the simulated replace -/

/-- a new order without status and log joins the table: its log is the empty path from "no status" -/
theorem lx_appendOrder {w w' : World} {o : Order} (a : Appended w o w') : LX w w' := by
  refine ⟨a.keeps.hasOrder, fun oid => ?_⟩
  by_cases hx : HasOrder w' oid
  · rcases a.cases hx with ⟨_, e⟩ | ⟨hn, e⟩ <;> rw [e]
    · exact Ext.refl _
    · rw [order!_missing w oid hn]; exact Ext.of_same a.status a.log
  · rw [order!_missing w' oid hx, order!_missing w oid fun h => hx (a.keeps.hasOrder oid h)]; exact Ext.refl _

theorem lx_filePlacement (w : World) (t : Txn) (a : Nat) (v : Option Int) (ex : Bool) (ha : HasOrder w a)
    (hl : legal' (w.order! a).status .pending = true) : LX w (w.filePlacement t a v ex) :=
  Rules.filePlacement Calm.lx LX.trans t a v ex (A := fun w => HasOrder w a ∧ legal' (w.order! a).status .pending = true) (P := fun _ => True)
    (fun k h => ⟨(k.hasOrder a).mpr h.1, by rw [k.status]; exact h.2⟩) (fun {w} h => ⟨lx_orderUpdateStatus w a .pending h.1 h.2, trivial⟩)
    (fun {w} _ => LX.of_eff (eff_blotterAdd w t.market a)) w ⟨ha, hl⟩

theorem lx_replaceRest (p : Package) (w : World) (o : Order) (a : Nat) (book : Book) (np : Option Rat) (sc : Rat)
    (ha : HasOrder w a) (hI : Inv.Inv w) (hc : (w.order! a).complete = true) : LX w (replaceRest p w o a book np sc) := by
  obtain ⟨_, hst2, _⟩ := Fl.createReplacement_new w a (np.getD 0) sc p.created hI
  have h2 := createReplacement_appended w a (np.getD 0) sc p.created
  obtain ⟨w3, c3, ⟨t, e⟩ | e⟩ := Fl.replaceRest_cases p w o a book np sc hI <;> rw [e]
  all_goals
    have k3 : LX w w3 := (lx_appendOrder h2).trans c3.lx
    have hr3 : HasOrder w3 w.orders.length := (c3.hasOrder _).mpr h2.has
    have hst3 : (w3.order! w.orders.length).status = none := (c3.status _).trans hst2
  · -- no status -> PENDING -> EXECUTABLE
    have k4 := lx_filePlacement w3 t w.orders.length none false hr3 (by rw [hst3]; decide)
    have s4 := Fl.filePlacement_self w3 t w.orders.length none false hr3
    exact ((k3.trans k4).trans (lx_orderExecutable _ _ (k4.has _ hr3) (Or.inr (by rw [s4.1]; decide)))).trans (eff_tradeExit _ _).calm.lx
  · -- no status -> EXECUTION_COMPLETE; the replaced order is complete: `executable()` on it is no step
    have k4 := lx_orderExecutionComplete w3 w.orders.length hr3 (by rw [hst3]; decide)
    have ha3 : HasOrder w3 a := k3.has a ha
    have hne : a ≠ w.orders.length := fun e => fresh_index w w hI (Keeps.refl w) (e ▸ ha)
    have hc4 : ((w3.orderExecutionComplete w.orders.length).order! a).complete = true := by
      rw [(frx_orderExecutionComplete w3 [w.orders.length] w3 _ (mine_self hr3)).2 a (fun hm => hne (List.mem_singleton.mp hm)) ha3 |>.2,
        c3.complete, h2.order! ha]
      exact hc
    exact ((k3.trans k4).trans (lx_orderExecutable _ a (k4.has a ha3) (Or.inl hc4))).trans (eff_tradeExit _ _).calm.lx

theorem lx_replaceStep (p : Package) (acc : World × Nat) (pr : Nat × Option Rat) (ha : HasOrder acc.1 pr.1) (hI : Inv.Inv acc.1)
    (hp : Pre (acc.1.order! pr.1)) : LX acc.1 (replaceStep p acc pr).1 := by
  obtain ⟨w2, e2, e | ⟨book, sc, e⟩⟩ := replaceStep_cases p acc pr <;> rw [e]
  · exact lxSteps.release (p := p) e2.calm ⟨ha, hp⟩ _
  · have h2 := lxSteps.hcalm (p := p) e2.calm ⟨ha, hp⟩
    have k3 : LX w2 (w2.orderExecutionComplete pr.1).bumpBetId := (lxSteps.ec (p := p) h2).trans (eff_bumpBetId _).calm.lx
    have g3 : Good acc.1 (w2.orderExecutionComplete pr.1).bumpBetId :=
      (e2.calm.good.trans (good_orderExecutionComplete w2 pr.1)).trans (eff_bumpBetId _).calm.good
    have hc3 : ((w2.orderExecutionComplete pr.1).bumpBetId.order! pr.1).complete = true := by
      rw [order!_congr (w2.orderExecutionComplete pr.1) (w2.orderExecutionComplete pr.1).bumpBetId rfl pr.1,
        executionComplete_self w2 pr.1 h2.1]; rfl
    exact (e2.calm.lx.trans k3).trans (lx_replaceRest p _ _ pr.1 book pr.2 sc (k3.has _ h2.1) (g3.2 hI) hc3)

/-! ### a fold of handler steps over distinct orders, and a whole package -/

/-- A step leaves `Pre` of the orders still to come alone (`Fr`: it touches its own order and new ones), which is the one
    use of distinctness: a second step on the same order would start from EXECUTABLE. -/
theorem fold_lx {σ α} (wof : σ → World) (key : α → Nat) (f : σ → α → σ) (P : World → Prop)
    (hstep : ∀ s a, HasOrder (wof s) (key a) → P (wof s) → Pre ((wof s).order! (key a)) → LX (wof s) (wof (f s a)))
    (hfr : ∀ s a, HasOrder (wof s) (key a) → P (wof s) → Fr (wof s) (key a) (wof s) (wof (f s a)))
    (hP : ∀ s a, HasOrder (wof s) (key a) → P (wof s) → P (wof (f s a)))
    (l : List α) (hnd : (l.map key).Nodup) (s : σ) (hw : P (wof s))
    (hl : ∀ a ∈ l, HasOrder (wof s) (key a) ∧ Pre ((wof s).order! (key a))) : LX (wof s) (wof (l.foldl f s)) := by
  induction l generalizing s with
  | nil => exact LX.refl _
  | cons b rest ih =>
    rw [List.foldl_cons]
    obtain ⟨hb, hpb⟩ := hl b List.mem_cons_self
    have fr := hfr s b hb hw
    rw [List.map_cons, List.nodup_cons] at hnd
    refine (hstep s b hb hw hpb).trans (ih hnd.2 (f s b) (hP s b hb hw) ?_)
    intro x hx
    obtain ⟨hxo, hxp⟩ := hl x (List.mem_cons_of_mem _ hx)
    have hne : key x ≠ key b := fun e => hnd.1 (e ▸ List.mem_map_of_mem hx)
    exact ⟨fr.hasOrder _ hxo, pre_same (fr.2 (key x) hne hxo) hxp⟩

theorem lx_executePackage (w : World) (p : Package) (hI : Inv.Inv w) (hnd : p.orders.Nodup)
    (hp : ∀ oid ∈ p.orders, HasOrder w oid ∧ Pre (w.order! oid)) : LX w (w.executePackage p) := by
  have hpo : ∀ oid ∈ w.packageOrders p, HasOrder w oid ∧ Pre (w.order! oid) := fun oid h => hp oid (List.mem_filter.mp h).1
  have hndp : ((w.packageOrders p).map fun a => a).Nodup := by rw [List.map_id']; exact hnd.filter _
  refine LX.trans ?_ (eff_chargeHandler w p).calm.lx
  unfold handlerLoop
  cases p.kind with
  | place =>
    exact fold_lx (σ := World) (fun s => s) (fun a => a) (placeStep p) (fun _ => True)
      (fun s a h _ hpre => lxSteps.placeStep p s a ⟨h, hpre⟩) (fun s a h _ => fr_placeStep p s a h)
      (fun _ _ _ _ => trivial) _ hndp w trivial hpo
  | cancel =>
    exact fold_lx (σ := World × Nat) Prod.fst (fun a => a) (cancelStep p) (fun _ => True)
      (fun s a h _ hpre => by rw [cancelStep_fst]; exact lxSteps.cancelOne p s.1 a ⟨h, hpre⟩) (fun s a h _ => fr_cancelStep p s a h)
      (fun _ _ _ _ => trivial) _ hndp (w, 0) trivial hpo
  | update =>
    exact fold_lx (σ := World × Nat) Prod.fst (fun a => a) (updateStep p) (fun _ => True)
      (fun s a h _ hpre => by rw [updateStep_fst]; exact lxSteps.updateOne p s.1 a ⟨h, hpre⟩) (fun s a h _ => fr_updateStep p s a h)
      (fun _ _ _ _ => trivial) _ hndp (w, 0) trivial hpo
  | replace =>
    have hndz : ((w.replaceInstructions p).map Prod.fst).Nodup := by
      unfold replaceInstructions
      rw [List.map_map, show (Prod.fst ∘ fun oid => (oid, (w.order! oid).ud.newPrice)) = fun a => a from rfl, List.map_id']
      exact (hnd.filter _).filter _
    refine fold_lx (σ := World × Nat) Prod.fst Prod.fst (replaceStep p) Inv.Inv
      (fun s a h hi hpre => lx_replaceStep p s a h hi hpre)
      (fr_replaceStep p)
      (fun s a _ hi => (good_replaceStep p s a).2 hi) _ hndz (w, 0) hI fun a ha => ?_
    obtain ⟨oid, ho, rfl⟩ := List.mem_map.mp ha
    exact hpo oid (List.mem_filter.mp ho).1

/-! ### the whole log of an order is a legal path from "no status" -/

def LLo (o : Order) : Prop := chain none o.log = true ∧ o.status = lastOr none o.log

theorem LLo.ext {o o' : Order} (h : LLo o) (e : Ext o o') : LLo o' := by
  obtain ⟨p, hp1, hp2, hp3⟩ := e
  refine ⟨?_, ?_⟩
  · rw [hp1, chain_append, h.1, ← h.2, hp2]; rfl
  · rw [hp3, hp1, lastOr_append, ← h.2]

def LL (w : World) : Prop := ∀ oid, LLo (w.order! oid)

theorem LL.step {w w' : World} (h : LL w) (x : LX w w') : LL w' := fun oid => (h oid).ext (x.ext oid)

theorem legal'_expired (s : Option Status) : legal' s .expired = false := by
  cases s with
  | none => rfl
  | some s => cases s <;> rfl

theorem LLo.not_expired {o : Order} (h : LLo o) : o.status ≠ some .expired := by
  obtain ⟨h1, h2⟩ := h
  rw [h2]
  clear h2
  suffices ∀ (s : Option Status) (l : List Status), s ≠ some .expired → chain s l = true → lastOr s l ≠ some .expired from
    this none o.log nofun h1
  intro s l
  induction l generalizing s with
  | nil => intro hs _; exact hs
  | cons t r ih =>
    intro _ hc
    simp only [chain, Bool.and_eq_true] at hc
    refine ih (some t) (fun e => ?_) hc.2
    cases Option.some.inj e
    rw [legal'_expired] at hc
    cases hc.1

/-! ### the due packages, one after the other -/

theorem pre_of_sent {o : Order} (h : Fin.Sent o) (hne : o.status ≠ some .executable) : Pre o := by
  obtain ⟨hs, hc⟩ := h
  rcases hs with h | h | h | h | h | h
  · exact Or.inl ⟨Or.inl h, by rw [hc _ h]; rfl⟩
  · exact absurd h hne
  · exact Or.inl ⟨Or.inr (Or.inl h), by rw [hc _ h]; rfl⟩
  · exact Or.inl ⟨Or.inr (Or.inr (Or.inl h)), by rw [hc _ h]; rfl⟩
  · exact Or.inl ⟨Or.inr (Or.inr (Or.inr h)), by rw [hc _ h]; rfl⟩
  · exact Or.inr ⟨h, by rw [hc _ h]; rfl⟩

theorem lx_execAll (l : List Package) (w : World) (hI : Inv.Inv w) (hnd : (l.flatMap (·.orders)).Nodup)
    (hp : ∀ p ∈ l, ∀ oid ∈ p.orders, HasOrder w oid ∧ Pre (w.order! oid)) : LX w (l.foldl (fun w p => w.executePackage p) w) := by
  induction l generalizing w with
  | nil => exact LX.refl w
  | cons p rest ih =>
    rw [List.foldl_cons]
    rw [List.flatMap_cons, List.nodup_append] at hnd
    obtain ⟨hndp, hndr, hdis⟩ := hnd
    have hpp := hp p List.mem_cons_self
    have s1 := lx_executePackage w p hI hndp hpp
    refine s1.trans (ih (w.executePackage p) ((good_executePackage w p).2 hI) hndr ?_)
    intro q hq oid ho
    obtain ⟨hoo, hpo⟩ := hp q (List.mem_cons_of_mem _ hq) oid ho
    have hnp : oid ∉ p.orders := fun hin => hdis oid hin oid (List.mem_flatMap.mpr ⟨q, hq, ho⟩) rfl
    exact ⟨s1.has oid hoo, pre_same (same_executePackage w p hI (fun x hx => (hpp x hx).1) oid hoo hnp) hpo⟩

/-- what `lx_execAll` asks of the due packages - distinct orders, each in flight or complete - is what `Fl.FI` (distinct, not
    EXECUTABLE, in their market's blotter) and `Fin.BI` (the orders of a blotter are sent) say of the queue -/
theorem lx_checkPendingPackages (w : World) (mid : Nat) (f : Fl.FI w none) (hB : ∀ M, Fin.BI M w) : LX w (w.checkPendingPackages mid) := by
  unfold checkPendingPackages
  extract_lets due w1
  have hq : Fl.pendIds w none = w.queue.flatMap (·.orders) := Fl.pendIds_none w
  have hnd : (due.flatMap (·.orders)).Nodup := (Fl.sublist_flatMap_filter w.queue (·.orders) _).nodup (hq ▸ f.nd)
  refine (lx_execAll due w f.inv hnd fun p hpm oid ho => ?_).trans (LX.of_eq rfl)
  have hin : oid ∈ Fl.pendIds w none := by rw [hq]; exact List.mem_flatMap.mpr ⟨p, (List.mem_filter.mp hpm).1, ho⟩
  have hhome := f.hm oid hin
  unfold Fl.Home at hhome
  exact ⟨f.ex oid hin, pre_of_sent ((hB _).sent oid hhome) (f.ne oid hin)⟩

/-! ### matching, removals, the completion loop, the close: `execution_complete()` on orders of a blotter -/

theorem lx_setOrder (w : World) (a : Nat) (o' : Order) (ha : HasOrder w a) (h : o'.core = (w.order! a).core) : LX w (w.setOrder o') :=
  ⟨fun oid ho => hasOrder_setOrder w _ oid ho, fun oid =>
    have c := Calm.order!_setOrder_core w a ha o' h oid
    Ext.of_same (Order.status_of_core c) (Order.log_of_core c)⟩

def InB (w : World) (a : Nat) : Prop := (∀ M, Fin.BI M w) ∧ ∃ M, a ∈ (w.market! M).blotter

theorem InB.has {w : World} {a : Nat} (h : InB w a) : HasOrder w a := by
  obtain ⟨hb, M, hm⟩ := h; exact (hb M).inv.blotter_hasOrder M a hm

theorem InB.legal {w : World} {a : Nat} (h : InB w a) : legal' (w.order! a).status .executionComplete = true := by
  obtain ⟨hb, M, hm⟩ := h
  rcases ((hb M).sent a hm).1 with e | e | e | e | e | e <;> rw [e] <;> decide

/-- middleware, completion loop and closure complete orders of blotters: legal, the blotters holding sent orders only - which
    is kept along the way (`Fin.FS`) -/
theorem lxBlotters : Blotters (fun w w' => LX w w' ∧ ∀ M, Fin.FS M w w') (fun w => ∀ M, Fin.BI M w) InB where
  calm := fun h => ⟨h.lx, h.fs⟩
  trans := fun h1 h2 => ⟨h1.1.trans h2.1, fun M => (h1.2 M).trans (h2.2 M)⟩
  gmono := fun k h M => ((k.2 M).2 (h M)).1
  bmono := fun k ⟨h, M, hm⟩ => ⟨fun M' => ((k.2 M').2 (h M')).1, M, ((k.2 M).2 (h M)).2.1 _ hm⟩
  blot := fun h mid oid ho => ⟨h, mid, ho⟩
  liveB := fun h mid oid ho => ⟨h, mid, (h mid).inv.live_sub mid oid ho⟩
  bkey := fun {w a} hb => by rw [order!_id w a hb.has]; exact hb
  setOrder := fun w a hb f hf =>
    ⟨lx_setOrder w a _ hb.has (hf _), fun M => (Fin.fsBlotters M).setOrder w a hb.has f hf⟩
  ecB := fun hb => ⟨lx_orderExecutionComplete _ _ hb.has hb.legal, fun M => (Fin.fsBlotters M).ecB hb.has⟩
  unlive := fun hb mid hc => ⟨LX.of_eq rfl, fun M => (Fin.fsBlotters M).unlive hb.has mid hc⟩
  ecUnlive := fun hb mid => ⟨(lx_orderExecutionComplete _ _ hb.has hb.legal).trans (LX.of_eq rfl), fun M => (Fin.fsBlotters M).ecUnlive hb.has mid⟩

/-! ### requests -/

theorem lx_orderViolation (w : World) (a : Nat) (msg : String) (ha : HasOrder w a) : LX w (w.orderViolation a msg) :=
  Rules.orderViolation Calm.lx LX.trans w a msg fun hu =>
    lx_orderUpdateStatus w a .violation ha (by rcases hu with u | u <;> rw [u] <;> decide)

/-- an accepted cancel / update / replace request: the order was EXECUTABLE -/
theorem lx_accepts {w w' : World} {a : Nat} (ha : HasOrder w a) (h : Accepts w w' a) : LX w w' := by
  obtain ⟨hx, f, s, hf, hs, rfl⟩ := h
  have k1 := lx_setOrder w a _ ha (hf _)
  refine k1.trans (lx_orderUpdateStatus _ a s (k1.has a ha) ?_)
  rw [show ((w.setOrder (f (w.order! a))).order! a).status = some .executable from
    (Order.status_of_core (Calm.order!_setOrder_core w a ha _ (hf _) a)).trans hx]
  rcases hs with e | e | e <;> rw [e] <;> decide

theorem lxRequests : Requests LX HasOrder := ⟨Calm.lx, LX.trans, fun k h => k.has _ h, fun _ h => lx_orderViolation _ _ _ h⟩

/-- `Transaction.place_order`: an order that is accepted had no status or was a refused order that never left - given that an
    order with any other status is in the blotter of the transaction's market or EXECUTION_COMPLETE, and so refused -/
theorem lx_txnPlace (w : World) (t : Txn) (oid : Nat) (v : Option Int) (ex force : Bool) (ho : HasOrder w oid)
    (hU : Fl.Unsent (Fl.St w oid) ∨ oid ∈ (w.market! t.market).blotter ∨ Fl.St w oid = some .executionComplete) :
    LX w (w.txnPlace t oid v ex force).1 := by
  have k1 : LX w (w.placeControls t oid ex force).1 :=
    lxRequests.placeControls w t oid ex force ho
  have q1 := Fl.q_placeControls w [] w t oid ex force ho
  refine txnPlace_cases w t oid v ex force (fun w' _ => LX w w') k1 fun hn1 hne1 => ?_
  -- the status the order has now is "unsent"
  have hun : Fl.Unsent ((w.placeControls t oid ex force).1.order! oid).status := by
    have hmv := q1.fr oid ho ho
    unfold Fl.St at hmv hU
    rcases hmv with e | e | ⟨hx, _⟩ | ⟨_, e⟩
    · rw [e]
      rcases hU with hU | hU | hU
      · exact hU
      · exact absurd (q1.bl t.market oid hU) hn1
      · rw [e, hU] at hne1; exact absurd rfl hne1
    · exact absurd e hne1
    · cases hx
    · rw [e]; exact Or.inr rfl
  exact k1.trans (lx_filePlacement _ t oid v ex (k1.has oid ho) (by rcases hun with e | e <;> rw [e] <;> decide))

/-! ### one scripted action, under the invariants of a reachable state -/

/-- `hU` of `lx_txnPlace` for a placement through the order's own market: in flight means listed (`CV.cv`), so at home
    (`Fl.FI.hm`); EXECUTABLE means at home (`Fl.FI.hx`); EXPIRED is no status of a legal log -/
theorem unsent_or_refused {w : World} {b : Option Txn} (hf : Fl.FI w b) (c : CV w b) (hl : LL w) (oid : Nat) (ho : HasOrder w oid)
    (M : Nat) (hM : (w.order! oid).market = M) :
    Fl.Unsent (Fl.St w oid) ∨ oid ∈ (w.market! M).blotter ∨ Fl.St w oid = some .executionComplete := by
  have home_in : Fl.Home w oid → oid ∈ (w.market! M).blotter := fun h => by unfold Fl.Home at h; rw [hM] at h; exact h
  have hinfl : InFl (Fl.St w oid) → oid ∈ (w.market! M).blotter := fun h => home_in (hf.hm oid (c.cv oid ho h))
  cases hs : Fl.St w oid with
  | none => exact Or.inl (Or.inl rfl)
  | some s =>
    cases s with
    | pending => exact Or.inr (Or.inl (hinfl (by rw [hs]; exact Or.inl rfl)))
    | cancelling => exact Or.inr (Or.inl (hinfl (by rw [hs]; exact Or.inr (Or.inl rfl))))
    | updating => exact Or.inr (Or.inl (hinfl (by rw [hs]; exact Or.inr (Or.inr (Or.inl rfl)))))
    | replacing => exact Or.inr (Or.inl (hinfl (by rw [hs]; exact Or.inr (Or.inr (Or.inr rfl)))))
    | executable => exact Or.inr (Or.inl (home_in (hf.hx oid ho hs)))
    | executionComplete => exact Or.inr (Or.inr rfl)
    | violation => exact Or.inl (Or.inr rfl)
    | expired => exact absurd hs ((hl oid).not_expired)

theorem lx_doActionCore (w : World) (mid : Nat) (batch : Option Txn) (a : Action) (h : Fl.FIm mid w batch) (c : CV w batch) (hl : LL w)
    (hloc : a.foreign w mid = false) : LX w (w.doActionCore mid batch a).1 := by
  obtain ⟨hf, hex, hbm⟩ := h
  have hin : ∀ tg : Target, tg.missing w = false → HasOrder w (tg.resolve w) := fun tg hm => (hasOrder_iff w _).mpr (target_mem w tg hf.inv hm)
  refine Rules.doActionCore (fun w _ w' _ => LX w w') (fun w _ => LX.refl w) LX.trans w mid batch a (fun w _ => LX.refl w)
    (fun w t => LX.of_eff (eff_txnExit w t)) (fun t => LX.of_eff (eff_txnExecute w t)) (fun _ _ => lx_appendOrder) ?_
    (fun t tg force k op file _ hm _ hop _ _ _ => lxRequests.txnRequest w t _ force k op file (fun hb h => lx_accepts hb (hop _ _ h)) (hin tg hm))
  intro t tg v force ha hm ht
  have hmk : (w.order! (tg.resolve w)).market = t.market := by
    have : (w.order! (tg.resolve w)).market = mid := Fl.market_of_not_foreign hloc (ha ▸ rfl) hm
    rcases ht with e | ⟨_, e⟩
    · rw [this, hbm t e]
    · rw [this, e]
  exact lx_txnPlace w t _ v true force (hin tg hm) (unsent_or_refused hf c hl _ (hin tg hm) t.market hmk)

/-! ### the invariant carried through the actions of a callback, an update, a run -/

theorem llActed (mid : Nat) : Acted mid (fun w b => Fl.FIm mid w b ∧ CV w b) (fun w _ => LL w) :=
  ⟨fun w b a hloc h l => l.step (lx_doActionCore w mid b a h.1 h.2 l hloc), fun w t _ l => l.step (LX.of_eff (eff_txnExit w t))⟩

theorem llCarried : Carried (fun w => Fl.FI w none ∧ CV w none) LL where
  calm := fun k _ l => l.step k.lx
  check := fun {w} mid p l => l.step (lx_checkPendingPackages w mid p.1 p.2.bi)
  close := fun {w} mid book p l => l.step (lxBlotters.processCloseMarket w mid book p.2.bi).1
  newMarket := fun _ _ _ _ l => l.step (LX.of_eq rfl)
  mw := fun {w} mid p l => l.step (lxBlotters.simulatedMiddleware w mid p.2.bi).1
  loop := fun {w} mid p l => l.step (lxBlotters.processSimulatedOrders w mid p.2.bi).1
  acts := fun {w} mid as hex hz p l => (((fjActed mid).and (llActed mid)).doActions w as hz ⟨⟨⟨p.1, hex, nofun⟩, p.2⟩, l⟩).2

theorem ll_empty (cfg : Config) (cl : List Client) (ss : List Strategy) : LL { cfg := cfg, clients := cl, strategies := ss } := by
  intro oid
  rw [order!_missing _ oid (not_hasOrder_of_nil rfl oid)]
  exact ⟨rfl, rfl⟩

theorem legal_reachable (cfg : Config) (cl : List Client) (ss : List Strategy) (us : List (Nat × Book × (Nat → List Action)))
    (hz : (runUpdates { cfg := cfg, clients := cl, strategies := ss } us).foreign = 0) :
    LL (runUpdates { cfg := cfg, clients := cl, strategies := ss } us) :=
  (((fcCarried.and llCarried).runUpdates _ us).2 hz ⟨⟨Fl.fi_empty cfg cl ss, cv_empty cfg cl ss⟩, ll_empty cfg cl ss⟩).2

end Flumine.Legal
