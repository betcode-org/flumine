/- Lemmas/Rules.lean — how the composite functions of the world model decompose, said once for an arbitrary transitive
   relation R on worlds: to relate w to `f w ..` it is enough to know what R makes of the few writes of f that are not
   bookkeeping.  A layer of lemmas about whole runs gives its relation and those facts (`Steps`, `Handlers`, `Blotters`,
   `Requests`, the hypotheses of the single rules) and has its lemmas about f as instances.  The two rules for scripted actions,
   `Rules.doActionCore` and `Rules.doActions`, stand in `Eff.lean`: the footprints are instances of them too.  An invariant that
   holds only as long as no foreign request is made goes through the same rules as the relation `Upto` (`Carried`, `Acted`).

   Bookkeeping means `Calm`: R has to hold between worlds with the same skeleton, so the rules serve relations that read
   nothing else. -/
import Flumine.Lemmas.Calm
import Flumine.Lemmas.Frame
namespace Flumine.Rules
open Flumine.World Flumine.OL Flumine.Ids

/-- What a layer says of a response handler at work on one order.
    `H p w a` is what the layer has to know of order `a` in world `w` for the handler of package `p` to release it
    (`executable()`) or complete it (`execution_complete()`): that it exists, say, or that it is in flight. -/
structure Steps (R : World → World → Prop) (H : Package → World → Nat → Prop) : Prop where
  calm : ∀ {w w'}, Calm w w' → R w w'
  trans : ∀ {a b c}, R a b → R b c → R a c
  hcalm : ∀ {w w' p a}, Calm w w' → H p w a → H p w' a
  exe : ∀ {p w a}, H p w a → R w (w.orderExecutable a)
  ec : ∀ {p w a}, H p w a → R w (w.orderExecutionComplete a)

/-- What a layer says of the response handlers, the replace handler included.
    `G w` is what the layer knows of a world it starts from: its invariant (`True` for a layer without one).
    `N p w r` is what the layer knows of a replacement order `r` that the replace handler of `p` has just created (that it is
    new, has no status, is in no blotter ..), `P p w r` what it knows once that order has been placed.
    `create`, `ecN`, `placeN`, `exeP`: the replacement order `o` of `a` joins the table; then it is refused (complete at once), or
    placed and released.
    Left out: a pre-condition that survives only the steps on OTHER orders of the package (so not `hmono`), a post-condition
    per order.  A layer that needs one folds over the orders of the package itself (`Legal.fold_lx`, `Settle.fold_settles`). -/
structure Handlers (R : World → World → Prop) (G : World → Prop) (H N P : Package → World → Nat → Prop) : Prop extends Steps R H where
  gmono : ∀ {w w'}, R w w' → G w → G w'
  hmono : ∀ {w w' p a}, R w w' → H p w a → H p w' a
  ncalm : ∀ {w w' p r}, Calm w w' → N p w r → N p w' r
  create : ∀ {p w a o w'}, Appended w o w' → o.market = (w.order! a).market → G w → H p w a → R w w' ∧ N p w' o.id
  ecN : ∀ {p w r}, N p w r → R w (w.orderExecutionComplete r)
  placeN : ∀ {p w r} c, N p w r →
    R w (w.txnPlace { market := p.market, client := c } r none false false).1 ∧ P p (w.txnPlace { market := p.market, client := c } r none false false).1 r
  exeP : ∀ {p w r}, P p w r → R w (w.orderExecutable r)

/-- What a layer says of what middleware, completion loop and closure do to the orders of a blotter.
    `G w`: the layer's invariant, as in `Handlers`.
    `B w a` is what the layer knows of an order listed in a blotter (usually that it exists). -/
structure Blotters (R : World → World → Prop) (G : World → Prop) (B : World → Nat → Prop) : Prop where
  calm : ∀ {w w'}, Calm w w' → R w w'
  trans : ∀ {a b c}, R a b → R b c → R a c
  gmono : ∀ {w w'}, R w w' → G w → G w'
  bmono : ∀ {w w' a}, R w w' → B w a → B w' a
  blot : ∀ {w}, G w → ∀ mid, ∀ oid ∈ (w.market! mid).blotter, B w oid
  liveB : ∀ {w}, G w → ∀ mid, ∀ oid ∈ (w.market! mid).live, B w oid
  /-- the matcher addresses an order by the id field of the record it looked up under `a` -/
  bkey : ∀ {w a}, B w a → B w (w.order! a).id
  /-- settlement data written over an order of a blotter -/
  setOrder : ∀ w a, B w a → ∀ f : Order → Order, (∀ x, (f x).core = x.core) → R w (w.setOrder (f (w.order! a)))
  ecB : ∀ {w a}, B w a → R w (w.orderExecutionComplete a)
  /-- an order of a blotter that is complete, or has just been completed, leaves the live list -/
  unlive : ∀ {w a}, B w a → ∀ mid, (w.order! a).complete = true → R w (w.blotterComplete mid a)
  ecUnlive : ∀ {w a}, B w a → ∀ mid, R w ((w.orderExecutionComplete a).blotterComplete mid a)

/-! ### the status setters: `_update_status` between bookkeeping -/

section setters
variable {R : World → World → Prop} (calm : ∀ {w w'}, Calm w w' → R w w') (trans : ∀ {a b c}, R a b → R b c → R a c)
include calm trans

/-- `executable()` leaves the status of a complete order alone -/
theorem orderExecutable (w : World) (a : Nat) (upd : ¬ (w.order! a).complete = true → R w (w.orderUpdateStatus a .executable)) :
    R w (w.orderExecutable a) := by
  unfold World.orderExecutable
  split
  · exact calm (eff_modifyOrder w a _).calm
  · rename_i hc
    exact trans (upd hc) (calm (eff_modifyOrder _ a _).calm)

theorem orderExecutionComplete (w : World) (a : Nat) (upd : R w (w.orderUpdateStatus a .executionComplete)) :
    R w (w.orderExecutionComplete a) :=
  trans upd (calm (eff_modifyOrder _ a _).calm)

/-- `violation()` marks only an order that was never sent: one without a status, or refused before -/
theorem orderViolation (w : World) (a : Nat) (msg : String)
    (upd : (w.order! a).status = none ∨ (w.order! a).status = some .violation → R w (w.orderUpdateStatus a .violation)) :
    R w (w.orderViolation a msg) := by
  unfold World.orderViolation
  split
  · exact calm (Calm.refl w)
  · rename_i hg
    refine trans (upd ?_) (calm (eff_modifyOrder _ a _).calm)
    cases hs : (w.order! a).status with
    | none => exact Or.inl rfl
    | some s => exact Or.inr (Decidable.byContradiction fun hne => hg ⟨hs ▸ rfl, hs ▸ hne⟩)

end setters

theorem txnExit {R : World → World → Prop} (refl : ∀ w, R w w) (w : World) (t : Txn) (exec : R w (w.txnExecute t).1) : R w (w.txnExit t) := by
  unfold World.txnExit
  split
  · exact exec
  · exact refl w

/-! ### the response handlers, one order -/

namespace Steps
variable {R : World → World → Prop} {H : Package → World → Nat → Prop}

theorem refl (L : Steps R H) (w : World) : R w w := L.calm (Calm.refl w)

theorem release (L : Steps R H) {p : Package} {w w1 : World} {a : Nat} (c : Calm w w1) (h : H p w a) (t : Nat) :
    R w ((w1.orderExecutable a).tradeExit t) :=
  L.trans (L.trans (L.calm c) (L.exe (L.hcalm c h))) (L.calm (eff_tradeExit _ t).calm)

theorem complete (L : Steps R H) {p : Package} {w w1 : World} {a : Nat} (c : Calm w w1) (h : H p w a) (t : Nat) :
    R w ((w1.orderExecutionComplete a).tradeExit t) :=
  L.trans (L.trans (L.calm c) (L.ec (L.hcalm c h))) (L.calm (eff_tradeExit _ t).calm)

theorem placeStep (L : Steps R H) (p : Package) (w : World) (a : Nat) (h : H p w a) : R w (placeStep p w a) := by
  obtain ⟨w1, h1, e | e⟩ := placeStep_cases w p a <;> rw [e]
  · exact L.release h1.calm h _
  · exact L.complete h1.calm h _

theorem cancelOne (L : Steps R H) (p : Package) (w : World) (a : Nat) (h : H p w a) : R w (w.cancelOne p a) := by
  obtain ⟨w1, h1, e | e⟩ := cancelOne_cases w p a <;> rw [e]
  · exact L.release h1.calm h _
  · exact L.complete h1.calm h _

theorem updateOne (L : Steps R H) (p : Package) (w : World) (a : Nat) (h : H p w a) : R w (w.updateOne p a) := by
  obtain ⟨w1, h1, e⟩ := updateOne_cases w p a
  rw [e]; exact L.release h1.calm h _

end Steps

namespace Handlers
variable {R : World → World → Prop} {G : World → Prop} {H N P : Package → World → Nat → Prop}

theorem foldH (L : Handlers R G H N P) {σ α} (p : Package) (wof : σ → World) (key : α → Nat) (f : σ → α → σ)
    (step : ∀ s a, G (wof s) → H p (wof s) (key a) → R (wof s) (wof (f s a)))
    (l : List α) (s : σ) (hG : G (wof s)) (hl : ∀ a ∈ l, H p (wof s) (key a)) : R (wof s) (wof (l.foldl f s)) :=
  foldl_rel L.refl L.trans wof f (fun w a => G w ∧ H p w (key a)) (fun _ k h => ⟨L.gmono k h.1, L.hmono k h.2⟩)
    (fun s a h => step s a h.1 h.2) l s fun a ha => ⟨hG, hl a ha⟩

theorem replaceRest (L : Handlers R G H N P) (p : Package) (w : World) (o : Order) (a : Nat) (book : Book) (np : Option Rat) (sc : Rat)
    (hG : G w) (h : H p w a) : R w (replaceRest p w o a book np sc) := by
  obtain ⟨q2, n2⟩ : R w _ ∧ N p _ w.orders.length := L.create (createReplacement_appended w a (np.getD 0) sc p.created) rfl hG h
  obtain ⟨w3, h3, ⟨w5, c, h5, e⟩ | e⟩ := replaceRest_stages w p o a book np sc <;> rw [e]
  all_goals
    have k3 : R w w3 := L.trans q2 (L.calm h3.calm)
    have n3 : N p w3 w.orders.length := L.ncalm h3.calm n2
  · obtain ⟨q6, p6⟩ := L.placeN c (L.ncalm h5.calm n3)
    exact L.trans (L.trans (L.trans (L.trans k3 (L.calm h5.calm)) q6) (L.exeP p6)) (L.calm (eff_tradeExit _ _).calm)
  · have k4 : R w (w3.orderExecutionComplete w.orders.length) := L.trans k3 (L.ecN n3)
    exact L.trans k4 (L.release (Calm.refl _) (L.hmono k4 h) _)

theorem replaceStep (L : Handlers R G H N P) (p : Package) (acc : World × Nat) (pr : Nat × Option Rat) (hG : G acc.1) (h : H p acc.1 pr.1) :
    R acc.1 (replaceStep p acc pr).1 := by
  obtain ⟨w2, h2, e | ⟨book, sc, e⟩⟩ := replaceStep_cases p acc pr <;> rw [e]
  · exact L.release h2.calm h _
  · have k3 : R acc.1 (w2.orderExecutionComplete pr.1).bumpBetId :=
      L.trans (L.trans (L.calm h2.calm) (L.ec (L.hcalm h2.calm h))) (L.calm (eff_bumpBetId _).calm)
    exact L.trans k3 (L.replaceRest p _ _ pr.1 book pr.2 sc (L.gmono k3 hG) (L.hmono k3 h))

theorem executePackage (L : Handlers R G H N P) (w : World) (p : Package) (hG : G w) (hp : ∀ a ∈ p.orders, H p w a) : R w (w.executePackage p) := by
  have hpo : ∀ a ∈ w.packageOrders p, H p w a := fun a h => hp a (List.mem_filter.mp h).1
  refine L.trans ?_ (L.calm (eff_chargeHandler w p).calm)
  unfold World.handlerLoop
  cases p.kind with
  | place => exact L.foldH p (fun w => w) (fun a => a) (World.placeStep p) (fun s a _ h => L.placeStep p s a h) _ w hG hpo
  | cancel =>
    rw [foldl_fst (World.cancelStep p) (fun w a => w.cancelOne p a) (cancelStep_fst p)]
    exact L.foldH p (fun w => w) (fun a => a) (fun w a => w.cancelOne p a) (fun s a _ h => L.cancelOne p s a h) _ w hG hpo
  | update =>
    rw [foldl_fst (World.updateStep p) (fun w a => w.updateOne p a) (updateStep_fst p)]
    exact L.foldH p (fun w => w) (fun a => a) (fun w a => w.updateOne p a) (fun s a _ h => L.updateOne p s a h) _ w hG hpo
  | replace =>
    refine L.foldH p Prod.fst Prod.fst (World.replaceStep p) (fun s x hg h => L.replaceStep p s x hg h) _ (w, 0) hG fun x hx => ?_
    obtain ⟨oid, ho, rfl⟩ := List.mem_map.mp hx
    exact hpo oid (List.mem_filter.mp ho).1

theorem execAll (L : Handlers R G H N P) (l : List Package) (w : World) (hG : G w) (hl : ∀ p ∈ l, ∀ a ∈ p.orders, H p w a) :
    R w (l.foldl (fun w p => w.executePackage p) w) :=
  foldl_rel L.refl L.trans id (fun w p => w.executePackage p) (fun w p => G w ∧ ∀ a ∈ p.orders, H p w a)
    (fun _ k h => ⟨L.gmono k h.1, fun a ha => L.hmono k (h.2 a ha)⟩) (fun w p h => L.executePackage w p h.1 h.2) l w fun p hp => ⟨hG, hl p hp⟩

/-- what R makes of dropping packages from the queue is for the caller to say (`drop`) -/
theorem checkPendingPackages (L : Handlers R G H N P) (drop : ∀ w (c : Package → Bool), R w { w with queue := w.queue.filter c })
    (w : World) (mid : Nat) (hG : G w) (hq : ∀ p ∈ w.queue, p.market = mid → ∀ a ∈ p.orders, H p w a) : R w (w.checkPendingPackages mid) := by
  unfold World.checkPendingPackages
  extract_lets due w1
  refine L.trans (L.execAll due w hG fun p hp => ?_) (drop _ _)
  obtain ⟨h1, h2⟩ := List.mem_filter.mp hp
  exact hq p h1 (of_decide_eq_true h2).1

end Handlers

namespace Blotters
variable {R : World → World → Prop} {G : World → Prop} {B : World → Nat → Prop}

theorem refl (L : Blotters R G B) (w : World) : R w w := L.calm (Calm.refl w)

theorem foldB (L : Blotters R G B) {σ α} (wof : σ → World) (key : α → Nat) (f : σ → α → σ)
    (step : ∀ s a, B (wof s) (key a) → R (wof s) (wof (f s a)))
    (l : List α) (s : σ) (hl : ∀ a ∈ l, B (wof s) (key a)) : R (wof s) (wof (l.foldl f s)) :=
  foldl_rel L.refl L.trans wof f (fun w a => B w (key a)) (fun _ k h => L.bmono k h) step l s hl

theorem foldG (L : Blotters R G B) {α} (f : World → α → World) (step : ∀ w a, G w → R w (f w a)) (l : List α) (w : World) (hG : G w) :
    R w (l.foldl f w) :=
  foldl_rel L.refl L.trans id f (fun w _ => G w) (fun _ k h => L.gmono k h) step l w fun _ _ => hG

/-! ### middleware, completion loop, closure -/

theorem matchStep (L : Blotters R G B) (mid : Nat) (r : Bool) (acc : World × List (Nat × Rat × List (Rat × Rat))) (o0 : Order)
    (ho : B acc.1 o0.id) : R acc.1 (matchStep mid r acc o0).1 := by
  rcases matchStep_cases mid r acc o0 with e | ⟨w1, h1, e | e⟩ <;> rw [e]
  · exact L.refl _
  · exact L.calm h1.calm
  · exact L.trans (L.calm h1.calm) (L.ecB (L.bmono (L.calm h1.calm) (L.bkey ho)))

theorem matchOrders (L : Blotters R G B) (w : World) (mid : Nat) (l : List Order) (r : Bool) (hl : ∀ x ∈ l, B w x.id) :
    R w (w.matchOrders mid l r) :=
  L.foldB Prod.fst Order.id (World.matchStep mid r) (fun s o h => L.matchStep mid r s o h) l (w, _) hl

theorem lookedUp (L : Blotters R G B) {w : World} (l : List Nat) (hl : ∀ oid ∈ l, B w oid) (x : Order) (hx : x ∈ l.map w.order!) : B w x.id := by
  obtain ⟨oid, ho, rfl⟩ := List.mem_map.mp hx
  exact L.bkey (hl oid ho)

theorem matchStrategy (L : Blotters R G B) (mid : Nat) (w : World) (sid : Nat) (hG : G w) : R w (matchStrategy mid w sid) := by
  rw [matchStrategy_eq]
  exact L.matchOrders w mid _ false fun x hx => L.lookedUp _ (L.blot hG mid) x (List.mem_filter.mp (mem_sortOrders _ x hx)).1

theorem mwProcessSimulatedOrders (L : Blotters R G B) (w : World) (mid : Nat) (hG : G w) : R w (w.mwProcessSimulatedOrders mid) := by
  unfold World.mwProcessSimulatedOrders
  dsimp only
  split
  · exact L.foldG _ (fun w sid h => L.matchStrategy mid w sid h) _ w hG
  · split
    · exact L.refl w
    · exact L.matchOrders w mid _ true fun x hx => L.lookedUp _ (L.liveB hG mid) x (mem_sortOrders _ x hx)

theorem simulatedMiddleware (L : Blotters R G B) (w : World) (mid : Nat) (hG : G w) : R w (w.simulatedMiddleware mid) := by
  rw [simulatedMiddleware_eq]
  have k1 : R w (w.applyRemovals mid) := L.calm (eff_applyRemovals w mid).calm
  split
  · exact L.trans k1 (L.mwProcessSimulatedOrders _ mid (L.gmono k1 hG))
  · exact k1

theorem processSimulatedOrders (L : Blotters R G B) (w : World) (mid : Nat) (hG : G w) : R w (w.processSimulatedOrders mid) := by
  rw [C15.processSimulatedOrders_loop]
  refine L.trans ?_ (L.calm (eff_processOrdersCallbacks _ mid).calm)
  refine L.foldB (fun w => w) (fun a => a) _ (fun w oid hb => ?_) _ w (L.liveB hG mid)
  rcases C15.loopStep_keeps_or_completes mid w oid with h | ⟨hc, h⟩ | h <;> rw [h]
  · exact L.refl w
  · exact L.unlive hb mid hc
  · exact L.ecUnlive hb mid

theorem blotterProcessClosed (L : Blotters R G B) (w : World) (mid : Nat) (book : Book) (hG : G w) : R w (w.blotterProcessClosed mid book) := by
  unfold World.blotterProcessClosed
  extract_lets n m
  refine L.foldB (fun w => w) (fun a => a) _ (fun w oid hb => ?_) m.blotter w (L.blot hG mid)
  dsimp only
  split
  · exact L.refl w
  · exact L.setOrder w oid hb (fun o => { o with runnerStatus := _, marketType := _, ewDivisor := _, deadHeat := _, lineResult := _ }) fun _ => rfl

theorem processCloseMarket (L : Blotters R G B) (w : World) (mid : Nat) (book : Book) (hG : G w) : R w (w.processCloseMarket mid book) := by
  cases h : w.market? mid with
  | none => rw [processCloseMarket_none w mid book h]; exact L.calm (eff_emit ..).calm
  | some m =>
    rw [processCloseMarket_some w mid book m h]
    refine L.trans ?_ (L.calm (eff_closeOut _ mid book).calm)
    obtain ⟨w2, h2, e⟩ := preClose_cases w mid book m
    rw [e]
    exact L.trans (L.calm h2.calm) (L.blotterProcessClosed _ mid book (L.gmono (L.calm h2.calm) hG))

end Blotters

/-! ### requests -/

/-- What a layer says of a request through a transaction.
    `B w a` is what the layer knows of the order `a` the request is about (usually that it exists).
    `viol`: what R makes of the refusal by a trading control, which marks an order that was never sent VIOLATION. -/
structure Requests (R : World → World → Prop) (B : World → Nat → Prop) : Prop where
  calm : ∀ {w w'}, Calm w w' → R w w'
  trans : ∀ {a b c}, R a b → R b c → R a c
  bmono : ∀ {w w' a}, R w w' → B w a → B w' a
  viol : ∀ {w a} msg, B w a → R w (w.orderViolation a msg)

namespace Requests
variable {R : World → World → Prop} {B : World → Nat → Prop}

theorem validateControls (L : Requests R B) (w : World) (a cid : Nat) (k : PackKind) (hb : B w a) : R w (w.validateControls a cid k).1 :=
  validateControls_cases w a cid k (fun w' _ => R w w')
    (fun _ msg _ h => L.trans (L.calm h.calm) (L.viol msg (L.bmono (L.calm h.calm) hb))) fun _ h => L.calm h.calm

theorem txnRequest (L : Requests R B) (w : World) (t : Txn) (a : Nat) (force : Bool) (k : PackKind) (op : World → Except ReqErr World)
    (file : Txn → Txn) (accept : ∀ {w w'}, B w a → op w = .ok w' → R w w') (hb : B w a) : R w (w.txnRequest t a force k op file).1 :=
  txnRequest_cases w t a force k op file (fun w' _ => R w w') (L.calm (Calm.refl w)) fun w1 h1 => by
    have k1 : R w w1 := by
      rcases h1 with rfl | rfl
      · exact L.calm (Calm.refl _)
      · exact L.validateControls w a t.client k hb
    exact ⟨k1, fun w2 h2 => L.trans k1 (accept (L.bmono k1 hb) h2)⟩

theorem placeControls (L : Requests R B) (w : World) (t : Txn) (a : Nat) (ex force : Bool) (hb : B w a) :
    R w (w.placeControls t a ex force).1 := by
  unfold World.placeControls
  extract_lets w1
  have k1 : R w w1 := L.calm (eff_modifyOrder w a _).calm
  split
  · exact L.trans k1 (L.validateControls w1 a t.client .place (L.bmono k1 hb))
  · exact k1

theorem txnPlace (L : Requests R B) (w : World) (t : Txn) (a : Nat) (v : Option Int) (ex force : Bool)
    (file : ∀ {w}, B w a → a ∉ (w.market! t.market).blotter → (w.order! a).status ≠ some .executionComplete → R w (w.filePlacement t a v ex))
    (hb : B w a) : R w (w.txnPlace t a v ex force).1 :=
  have kc := L.placeControls w t a ex force hb
  txnPlace_cases w t a v ex force (fun w' _ => R w w') kc fun hn he => L.trans kc (file (L.bmono kc hb) hn he)

end Requests

/-- `A w` is what the layer knows of order and market before (it survives bookkeeping), `P w` once the order is PENDING. -/
theorem filePlacement {R : World → World → Prop} {A P : World → Prop}
    (calm : ∀ {w w'}, Calm w w' → R w w') (trans : ∀ {a b c}, R a b → R b c → R a c) (t : Txn) (a : Nat) (v : Option Int) (ex : Bool)
    (acalm : ∀ {w w'}, Calm w w' → A w → A w')
    (pend : ∀ {w}, A w → R w (w.orderPlacing a) ∧ P (w.orderPlacing a))
    (add : ∀ {w}, P w → R w (w.blotterAdd t.market a))
    (w : World) (ha : A w) : R w (w.filePlacement t a v ex) := by
  obtain ⟨w1, h1, h⟩ := filePlacement_cases w t a v ex
  obtain ⟨k2, p2⟩ := pend (acalm h1.calm ha)
  exact trans (trans (trans (calm h1.calm) k2) (add p2)) (calm h.calm)

/-! ### a whole update: the four stages of `processMarketBook_fst` -/

section update
variable {R : World → World → Prop} (calm : ∀ {w w'}, Calm w w' → R w w') (trans : ∀ {a b c}, R a b → R b c → R a c)
  (mid : Nat) (book : Book)
include calm trans

theorem arrive (check : ∀ w, R w (w.checkPendingPackages mid)) (w : World) : R w (w.arrive mid book) := by
  unfold World.arrive
  extract_lets w1
  have k1 : R w w1 := calm (eff_setClock w book.pt).calm
  split
  · exact k1
  · exact trans k1 (check w1)

theorem receive (newMarket : ∀ w, (w.market? mid).isNone = true →
      R w ({ w with markets := w.markets ++ [({ id := mid, book := some book } : Market)] } : World))
    (w : World) : R w (w.receive mid book) := by
  rcases receive_cases w mid book with ⟨hn, h⟩ | ⟨_, h⟩
  · exact trans (newMarket w hn) (calm h.calm)
  · exact calm h.calm

omit calm in
theorem settle (mw : ∀ w, R w (w.simulatedMiddleware mid)) (loop : ∀ w, R w (w.processSimulatedOrders mid)) (w : World) :
    R w (w.settle mid) := by
  unfold World.settle
  extract_lets w1
  split
  · exact trans (mw w) (loop w1)
  · exact mw w

/-- By the time of the callbacks the market of the update is known: carried along as `mid ∈ w.mids`, which footprints
    transport (`Eff.mids`), and handed to `acts` the way the layers spell it. -/
theorem callback (script : Nat → List Action) (acts : ∀ w as, (w.market? mid).isSome = true → R w (w.doActions mid as).1)
    (isNew : Bool) (w : World) (s : Strategy) (hx : mid ∈ w.mids) : R w (callback isNew mid book script w s) := by
  rcases callback_cases w isNew mid book script s with e | ⟨w1, h1, e⟩ <;> rw [e]
  · exact calm (Calm.refl _)
  · exact trans (calm h1.calm) (acts _ _ ((Mids.market?_isSome_iff _ mid).mpr (h1.mids ▸ hx)))

theorem callbacks (script : Nat → List Action) (acts : ∀ w as, (w.market? mid).isSome = true → R w (w.doActions mid as).1)
    (isNew : Bool) (l : List Strategy) (w : World) (hx : mid ∈ w.mids) : R w (l.foldl (World.callback isNew mid book script) w) := by
  induction l generalizing w with
  | nil => exact calm (Calm.refl _)
  | cons s ss ih =>
    exact trans (callback @calm @trans mid book script acts isNew w s hx) (ih _ ((eff_callback w isNew mid book script s).mids ▸ hx))

theorem processMarketBook (script : Nat → List Action)
    (check : ∀ w, R w (w.checkPendingPackages mid)) (close : ∀ w, R w (w.processCloseMarket mid book))
    (newMarket : ∀ w, (w.market? mid).isNone = true →
      R w ({ w with markets := w.markets ++ [({ id := mid, book := some book } : Market)] } : World))
    (mw : ∀ w, R w (w.simulatedMiddleware mid)) (loop : ∀ w, R w (w.processSimulatedOrders mid))
    (acts : ∀ w as, (w.market? mid).isSome = true → R w (w.doActions mid as).1)
    (w : World) : R w (w.processMarketBook mid book script).1 := by
  rw [processMarketBook_fst]
  have k1 := arrive @calm @trans mid book check w
  generalize w.arrive mid book = w1 at k1 ⊢
  split
  · exact trans k1 (close w1)
  · have k2 := receive @calm @trans mid book newMarket w1
    have x2 := Mids.mem_receive w1 mid book
    generalize w1.receive mid book = w2 at k2 x2 ⊢
    have k3 := settle @trans mid mw loop w2
    -- taken before `w2.settle mid` is generalized, used after: `▸` along an equation that mentions `w2.settle mid` unfolds
    -- `settle` in search of a match, which is slow
    have e3 := (eff_settle w2 mid).mids
    generalize w2.settle mid = w3 at k3 e3 ⊢
    exact trans (trans (trans k1 k2) k3) (callbacks @calm @trans mid book script acts _ _ w3 (e3 ▸ x2))

end update

/-! ### invariants of the runs that make no foreign request -/

/-- From a state with `Φ` the step leads to one with `Φ'`, unless the ghost counter of foreign requests is above 0 afterwards.  The
    counter only grows, so a composite step after which it is 0 consists of steps after which it is 0: the relation composes. -/
def Upto (Φ Φ' : World → Prop) (w w' : World) : Prop := w.foreign ≤ w'.foreign ∧ (w'.foreign = 0 → Φ w → Φ' w')

theorem Upto.refl (Φ : World → Prop) (w : World) : Upto Φ Φ w w := ⟨Nat.le_refl _, fun _ h => h⟩
theorem Upto.trans {Φ Φ' Φ'' : World → Prop} {a b c : World} (h1 : Upto Φ Φ' a b) (h2 : Upto Φ' Φ'' b c) : Upto Φ Φ'' a c :=
  ⟨Nat.le_trans h1.1 h2.1, fun hz h => h2.2 hz (h1.2 (Nat.le_zero.mp (hz ▸ h2.1)) h)⟩
theorem Upto.of_eq {Φ Φ' : World → Prop} {w w' : World} (hf : w'.foreign = w.foreign) (h : Φ w → Φ' w') : Upto Φ Φ' w w' :=
  ⟨Nat.le_of_eq hf.symm, fun _ => h⟩

/-- `Φ` is kept by every scripted step of a callback of market `mid` that makes no foreign request, from a state with `Ψ` (and
    `Φ`); both speak of the world and the open transaction. -/
structure Acted (mid : Nat) (Ψ Φ : World → Option Txn → Prop) : Prop where
  act : ∀ w b a, a.foreign w mid = false → Ψ w b → Φ w b → Φ (w.doActionCore mid b a).1 (w.doActionCore mid b a).2.1
  exit : ∀ w t, Ψ w (some t) → Φ w (some t) → Φ (w.txnExit t) none

namespace Acted
variable {mid : Nat} {Ψ Φ : World → Option Txn → Prop}

theorem and (A : Acted mid (fun _ _ => True) Ψ) (B : Acted mid Ψ Φ) : Acted mid (fun _ _ => True) (fun w b => Ψ w b ∧ Φ w b) :=
  ⟨fun w b a hl _ h => ⟨A.act w b a hl trivial h.1, B.act w b a hl h.1 h.2⟩, fun w t _ h => ⟨A.exit w t trivial h.1, B.exit w t h.1 h.2⟩⟩

theorem doActions (A : Acted mid (fun _ _ => True) Φ) (w : World) (as : List Action) (hz : (w.doActions mid as).1.foreign = 0)
    (h : Φ w none) : Φ (w.doActions mid as).1 none :=
  (Rules.doActions (fun w b w' b' => Upto (Φ · b) (Φ · b') w w') (fun _ _ => Upto.refl _ _) Upto.trans mid
    (fun w b a => ⟨Ghost.doAction_le w mid b a, fun hz h =>
      have e := Ghost.doAction_foreign_zero w mid b a hz
      e.2 ▸ A.act w b a e.1 trivial h⟩)
    (fun w t => Upto.of_eq (eff_txnExit w t).foreign (A.exit w t trivial)) w as).2 hz h

end Acted

/-- `Φ` is kept by every stage of an update that starts in a state with `Ψ` (and `Φ`) - by the scripted actions as long as they
    make no foreign request.  The fields are the leaves of `Rules.processMarketBook`; `acts` comes from an `Acted` by
    `Acted.doActions`.  `Carried.and` stacks an invariant that needs another one on top of it, as `Acted.and` does. -/
structure Carried (Ψ Φ : World → Prop) : Prop where
  calm : ∀ {w w'}, Calm w w' → Ψ w → Φ w → Φ w'
  check : ∀ {w} mid, Ψ w → Φ w → Φ (w.checkPendingPackages mid)
  close : ∀ {w} mid book, Ψ w → Φ w → Φ (w.processCloseMarket mid book)
  newMarket : ∀ {w} mid (book : Book), (w.market? mid).isNone = true → Ψ w → Φ w →
    Φ { w with markets := w.markets ++ [({ id := mid, book := some book } : Market)] }
  mw : ∀ {w} mid, Ψ w → Φ w → Φ (w.simulatedMiddleware mid)
  loop : ∀ {w} mid, Ψ w → Φ w → Φ (w.processSimulatedOrders mid)
  acts : ∀ {w} mid as, (w.market? mid).isSome = true → (w.doActions mid as).1.foreign = 0 → Ψ w → Φ w → Φ (w.doActions mid as).1

namespace Carried
variable {Ψ Φ : World → Prop}

theorem and (A : Carried (fun _ => True) Ψ) (B : Carried Ψ Φ) : Carried (fun _ => True) (fun w => Ψ w ∧ Φ w) where
  calm := fun k _ h => ⟨A.calm k trivial h.1, B.calm k h.1 h.2⟩
  check := fun mid _ h => ⟨A.check mid trivial h.1, B.check mid h.1 h.2⟩
  close := fun mid book _ h => ⟨A.close mid book trivial h.1, B.close mid book h.1 h.2⟩
  newMarket := fun mid book hn _ h => ⟨A.newMarket mid book hn trivial h.1, B.newMarket mid book hn h.1 h.2⟩
  mw := fun mid _ h => ⟨A.mw mid trivial h.1, B.mw mid h.1 h.2⟩
  loop := fun mid _ h => ⟨A.loop mid trivial h.1, B.loop mid h.1 h.2⟩
  acts := fun mid as hex hz _ h => ⟨A.acts mid as hex hz trivial h.1, B.acts mid as hex hz h.1 h.2⟩

theorem processMarketBook (A : Carried (fun _ => True) Φ) (w : World) (mid : Nat) (book : Book) (script : Nat → List Action) :
    Upto Φ Φ w (w.processMarketBook mid book script).1 :=
  Rules.processMarketBook (fun h => Upto.of_eq h.fg (A.calm h trivial)) Upto.trans mid book script
    (fun w => Upto.of_eq (eff_checkPendingPackages w mid).foreign (A.check mid trivial))
    (fun w => Upto.of_eq (eff_processCloseMarket w mid book).foreign (A.close mid book trivial))
    (fun w hn => Upto.of_eq rfl (A.newMarket mid book hn trivial))
    (fun w => Upto.of_eq (eff_simulatedMiddleware w mid).foreign (A.mw mid trivial))
    (fun w => Upto.of_eq (eff_processSimulatedOrders w mid).foreign (A.loop mid trivial))
    (fun w as hex => ⟨Ghost.doActions_le w mid as, fun hz => A.acts mid as hex hz trivial⟩) w

theorem runUpdates (A : Carried (fun _ => True) Φ) (w : World) (us : List (Nat × Book × (Nat → List Action))) :
    Upto Φ Φ w (Inv.runUpdates w us) :=
  foldl_steps (Upto.refl Φ) Upto.trans (fun w => w) _ (fun w (u : Nat × Book × (Nat → List Action)) => A.processMarketBook w u.1 u.2.1 u.2.2) us w

end Carried

end Flumine.Rules
