/- Lemmas/Eff.lean — the footprint of every function of the world model: the kinds of elementary write it is composed
   of.  One walk over the model (`eff_f : Eff S w (f w ..)`, `S` the kinds `f` can perform); that a function leaves a
   field, a projection or the set of order ids alone is then read off its footprint (`Eff.avoid` and the lemmas after
   it) instead of being proved by a walk of its own. -/
import Flumine.Lemmas.Shape
import Flumine.Lemmas.Pending
namespace Flumine
open World

/-- is the event a `process_closed_market` callback? -/
def Ev.isCC : Ev → Bool
  | .closedCallback _ _ _ => true
  | _ => false

/-- what the invariants of whole runs read of an order: everything else (sizes, prices, fills, times, client ..) is data to them -/
def Order.core (o : Order) : Nat × Option Status × Bool × List Status × Nat := (o.id, o.status, o.complete, o.log, o.market)

theorem Order.status_of_core {o o' : Order} (h : o'.core = o.core) : o'.status = o.status := congrArg (·.2.1) h
theorem Order.complete_of_core {o o' : Order} (h : o'.core = o.core) : o'.complete = o.complete := congrArg (·.2.2.1) h
theorem Order.log_of_core {o o' : Order} (h : o'.core = o.core) : o'.log = o.log := congrArg (·.2.2.2.1) h
theorem Order.market_of_core {o o' : Order} (h : o'.core = o.core) : o'.market = o.market := congrArg (·.2.2.2.2) h

/-- and of a market -/
def Market.core (m : Market) : Nat × List Nat × List Nat := (m.id, m.blotter, m.live)

inductive Kind
  | order | setOrder | newOrder | trade | ctx | market | blotter | mrem | newMarket | removals | enqueue | dequeue
  | client | betId | out | cc | foreign | clock
  deriving DecidableEq

namespace Kind

/-- A set of kinds as a numeral: bit `ctorIdx k` is set for every `k` of the list.  Inclusion and disjointness of footprints are
    then comparisons of numerals, which `decide` evaluates at once; asked of the lists they take a comparison of constructors for
    every pair of elements, at every composition of two footprints and every reading. -/
def mask : List Kind → Nat
  | [] => 0
  | k :: r => 1 <<< k.ctorIdx ||| mask r

theorem mem_iff_testBit (S : List Kind) (k : Kind) : k ∈ S ↔ (mask S).testBit k.ctorIdx = true := by
  induction S with
  | nil => simp [mask]
  | cons t r ih =>
    rw [List.mem_cons, mask, Nat.testBit_or, Bool.or_eq_true, ← ih, Nat.one_shiftLeft, Nat.testBit_two_pow, decide_eq_true_iff]
    refine or_congr ⟨fun e => e ▸ rfl, fun e => ?_⟩ Iff.rfl
    rw [← ofNat_ctorIdx k, ← ofNat_ctorIdx t, e]

/-- `S ⊆ T` -/
abbrev Sub (S T : List Kind) : Prop := mask S &&& mask T = mask S
/-- `S` and `T` have no kind in common -/
abbrev Disj (S T : List Kind) : Prop := mask S &&& mask T = 0

theorem and_testBit {S : List Kind} {k : Kind} (hk : k ∈ S) (n : Nat) : (mask S &&& n).testBit k.ctorIdx = n.testBit k.ctorIdx := by
  rw [Nat.testBit_and, (mem_iff_testBit S k).mp hk, Bool.true_and]

theorem Sub.mem {S T : List Kind} (h : Sub S T) {k : Kind} (hk : k ∈ S) : k ∈ T := by
  rw [mem_iff_testBit, ← and_testBit hk, h, ← mem_iff_testBit]; exact hk

theorem Disj.not_mem {S T : List Kind} (h : Disj S T) {k : Kind} (hk : k ∈ S) : k ∉ T := by
  rw [mem_iff_testBit, ← and_testBit hk, h, Nat.zero_testBit]; nofun

end Kind

/-- One elementary write of a given kind, with what it is known to preserve.  The orders are rewritten in place keeping their
    core (`order`) or only their id (`setOrder`); the markets keeping core and removal list (`market`), id and removal list -
    blotter and live list may change - (`blotter`), or the core - removal list, analytics and the rest may change - (`mrem`).
    `out` appends an event that is no closed-market callback; `cc` writes the event list at will.  (The readings below are named
    after the quantity they show UNCHANGED: `h.mrem`, `h.cc`, `h.out` for a footprint `h` without the kinds that write it.) -/
inductive Write : Kind → World → World → Prop
  | order (w : World) (g : Order → Order) (hg : ∀ x, (g x).core = x.core) : Write .order w { w with orders := w.orders.map g }
  | setOrder (w : World) (g : Order → Order) (hg : ∀ x, (g x).id = x.id) : Write .setOrder w { w with orders := w.orders.map g }
  | newOrder (w : World) (o : Order) (ho : o.id = w.orders.length) : Write .newOrder w { w with orders := w.orders ++ [o] }
  | trade (w : World) (ts : List Trade) : Write .trade w { w with trades := ts }
  | ctx (w : World) (cs : List RunnerCtx) : Write .ctx w { w with ctxs := cs }
  | market (w : World) (g : Market → Market) (hg : ∀ x, (g x).core = x.core ∧ (g x).removals = x.removals) :
      Write .market w { w with markets := w.markets.map g }
  | blotter (w : World) (g : Market → Market) (hg : ∀ x, (g x).id = x.id ∧ (g x).removals = x.removals) :
      Write .blotter w { w with markets := w.markets.map g }
  | mrem (w : World) (g : Market → Market) (hg : ∀ x, (g x).core = x.core) : Write .mrem w { w with markets := w.markets.map g }
  | newMarket (w : World) (m : Market) : Write .newMarket w { w with markets := w.markets ++ [m] }
  | removals (w : World) (rs : List (Nat × Rat × Option Rat)) : Write .removals w { w with removals := rs }
  | enqueue (w : World) (p : Package) : Write .enqueue w { w with queue := w.queue ++ [p], nextPackage := w.nextPackage + 1 }
  | dequeue (w : World) (f : Package → Bool) : Write .dequeue w { w with queue := w.queue.filter f }
  | client (w : World) (cs : List Client) : Write .client w { w with clients := cs }
  | betId (w : World) (n : Nat) : Write .betId w { w with betId := n }
  | out (w : World) (e : Ev) (he : e.isCC = false) : Write .out w { w with out := w.out ++ [e] }
  | cc (w : World) (es : List Ev) : Write .cc w { w with out := es }
  | foreign (w : World) (n : Nat) : Write .foreign w { w with foreign := n }
  | clock (w : World) (t : Time) : Write .clock w { w with clock := t }

/-- `w'` comes from `w` by elementary writes whose kinds are all in `S` -/
inductive Eff (S : List Kind) : World → World → Prop
  | refl (w : World) : Eff S w w
  | step {k : Kind} {a b c : World} (hk : k ∈ S) (hw : Write k a b) (h : Eff S b c) : Eff S a c

namespace Eff

theorem one {S : List Kind} {k : Kind} {a b : World} (hw : Write k a b) (hk : Kind.Sub [k] S := by decide) : Eff S a b :=
  .step (hk.mem List.mem_cons_self) hw (.refl b)

theorem append {S : List Kind} {a b c : World} (h1 : Eff S a b) (h2 : Eff S b c) : Eff S a c := by
  induction h1 with
  | refl => exact h2
  | step hk hw _ ih => exact .step hk hw (ih h2)

theorem le {S T : List Kind} {a b : World} (h : Eff S a b) (hs : Kind.Sub S T := by decide) : Eff T a b := by
  induction h with
  | refl => exact .refl _
  | step hk hw _ ih => exact .step (hs.mem hk) hw ih

theorem trans {S S' T : List Kind} {a b c : World} (h1 : Eff S a b) (h2 : Eff S' b c)
    (hs : Kind.Sub S T := by decide) (hs' : Kind.Sub S' T := by decide) : Eff T a c :=
  (h1.le hs).append (h2.le hs')

/-! What a footprint leaves alone: each lemma names the kinds of write that can change the quantity.  (`induction hw` is the case
   analysis, `Write` is not recursive; `cases hw` costs twice as much to check, for the equations between indices it brings in.) -/

variable {S : List Kind} {a b : World}

theorem avoid {α} (h : Eff S a b) (π : World → α) (bad : List Kind)
    (hπ : ∀ {k w w'}, Write k w w' → k ∉ bad → π w' = π w) (hS : Kind.Disj S bad) : π b = π a := by
  induction h with
  | refl => rfl
  | step hk hw _ ih => exact ih.trans (hπ hw (hS.not_mem hk))

theorem foreign (h : Eff S a b) (hS : Kind.Disj S [Kind.foreign] := by decide) : b.foreign = a.foreign :=
  h.avoid (·.foreign) _ (fun hw hk => by induction hw <;> first | rfl | exact absurd (by decide) hk) hS
theorem len (h : Eff S a b) (hS : Kind.Disj S [Kind.newOrder] := by decide) : b.orders.length = a.orders.length :=
  h.avoid (·.orders.length) _ (fun hw hk => by induction hw <;> first | rfl | exact List.length_map _ | exact absurd (by decide) hk) hS
theorem nextPackage (h : Eff S a b) (hS : Kind.Disj S [Kind.enqueue] := by decide) : b.nextPackage = a.nextPackage :=
  h.avoid (·.nextPackage) _ (fun hw hk => by induction hw <;> first | rfl | exact absurd (by decide) hk) hS
theorem queue (h : Eff S a b) (hS : Kind.Disj S [Kind.enqueue, Kind.dequeue] := by decide) : b.queue = a.queue :=
  h.avoid (·.queue) _ (fun hw hk => by induction hw <;> first | rfl | exact absurd (by decide) hk) hS
theorem strategies (h : Eff S a b) : b.strategies = a.strategies :=
  h.avoid (·.strategies) [] (fun hw _ => by induction hw <;> rfl) (Nat.and_zero _)
theorem trades (h : Eff S a b) (hS : Kind.Disj S [Kind.trade] := by decide) : b.trades = a.trades :=
  h.avoid (·.trades) _ (fun hw hk => by induction hw <;> first | rfl | exact absurd (by decide) hk) hS
theorem clients (h : Eff S a b) (hS : Kind.Disj S [Kind.client] := by decide) : b.clients = a.clients :=
  h.avoid (·.clients) _ (fun hw hk => by induction hw <;> first | rfl | exact absurd (by decide) hk) hS
theorem clock (h : Eff S a b) (hS : Kind.Disj S [Kind.clock] := by decide) : b.clock = a.clock :=
  h.avoid (·.clock) _ (fun hw hk => by induction hw <;> first | rfl | exact absurd (by decide) hk) hS
theorem out (h : Eff S a b) (hS : Kind.Disj S [Kind.out, Kind.cc] := by decide) : b.out = a.out :=
  h.avoid (·.out) _ (fun hw hk => by induction hw <;> first | rfl | exact absurd (by decide) hk) hS
theorem orders (h : Eff S a b) (hS : Kind.Disj S [Kind.order, Kind.setOrder, Kind.newOrder] := by decide) : b.orders = a.orders :=
  h.avoid (·.orders) _ (fun hw hk => by induction hw <;> first | rfl | exact absurd (by decide) hk) hS
theorem markets (h : Eff S a b) (hS : Kind.Disj S [Kind.market, Kind.blotter, Kind.mrem, Kind.newMarket] := by decide) : b.markets = a.markets :=
  h.avoid (·.markets) _ (fun hw hk => by induction hw <;> first | rfl | exact absurd (by decide) hk) hS

theorem foldlOn {σ α} {S : List Kind} (wof : σ → World) (f : σ → α → σ) (hf : ∀ s a, Eff S (wof s) (wof (f s a)))
    (l : List α) (s : σ) : Eff S (wof s) (wof (l.foldl f s)) :=
  foldl_steps .refl .append wof f hf l s

theorem foldl {α} {S : List Kind} (f : World → α → World) (hf : ∀ w a, Eff S w (f w a)) (l : List α) (w : World) :
    Eff S w (l.foldl f w) :=
  foldlOn id f hf l w

end Eff

/-! ### the walk

Where the rules of `Rules.lean` have to go through a function again, because some of its writes are more than bookkeeping to a
layer, the walk is a lemma `f_cases`: those writes by name, and around them the bookkeeping as footprints (which are `Calm`:
`Eff.calm`).  `eff_f` follows from it here, the rule there.  For the scripted actions the `f_cases` lemma is the rule itself. -/

section walk
variable (w : World)

-- the default proof of `hf` unfolds `core` first: `rfl` on `(f x).core = x.core` as it stands compares `f x` with `x`, field by
-- field, before it unfolds `core`
theorem eff_modifyOrder (a : Nat) (f : Order → Order) (hf : ∀ x, (f x).core = x.core := by intro _; unfold Order.core; rfl) :
    Eff [.order] w (w.modifyOrder a f) :=
  .one (.order w (fun x => if x.id = a then f x else x) fun x => by split <;> simp [hf])
theorem eff_setOrder (o : Order) : Eff [.setOrder] w (w.setOrder o) :=
  .one (.setOrder w (fun x => if x.id = o.id then o else x) fun x => by split <;> simp_all)
theorem eff_setTrade (t : Trade) : Eff [.trade] w (w.setTrade t) := .one (.trade w _)
theorem eff_setClient (c : Client) : Eff [.client] w (w.setClient c) := .one (.client w _)
theorem eff_modifyMarket (a : Nat) (f : Market → Market) (hf : ∀ x, (f x).core = x.core ∧ (f x).removals = x.removals := by exact fun _ => ⟨rfl, rfl⟩) :
    Eff [.market] w (w.modifyMarket a f) :=
  .one (.market w (fun x => if x.id = a then f x else x) fun x => by split <;> simp [hf])
/-- an edit of a market that is only known to keep its id and removals counts as a write of its blotter -/
theorem eff_modifyMarket' (a : Nat) (f : Market → Market) (hf : ∀ x, (f x).id = x.id ∧ (f x).removals = x.removals := by exact fun _ => ⟨rfl, rfl⟩) :
    Eff [.blotter] w (w.modifyMarket a f) :=
  .one (.blotter w (fun x => if x.id = a then f x else x) fun x => by split <;> simp [hf])
theorem eff_emit (e : Ev) (he : e.isCC = false := by rfl) : Eff [.out] w (w.emit e) := .one (.out w e he)
theorem eff_bumpBetId : Eff [.betId] w w.bumpBetId := .one (.betId w _)
theorem eff_setClock (t : Time) : Eff [.clock] w (w.setClock t) := .one (.clock w t)
theorem eff_addTransaction (c n : Nat) (f : Bool) : Eff [.client] w (w.addTransaction c n f) := eff_setClient ..

theorem eff_setCtx (c : RunnerCtx) : Eff [.ctx] w (w.setCtx c) := by
  unfold setCtx; split <;> exact .one (.ctx w _)
theorem eff_ctxPlace (k : CtxKey) (t : Nat) : Eff [.ctx] w (w.ctxPlace k t) := eff_setCtx ..
theorem eff_ctxReset (k : CtxKey) (t : Nat) : Eff [.ctx] w (w.ctxReset k t) := eff_setCtx ..

theorem eff_completeTrade (tid : Nat) : Eff [.trade, .ctx] w (w.completeTrade tid) :=
  (eff_setTrade ..).trans (eff_ctxReset ..)
theorem eff_tradeUpdateStatus (tid : Nat) (s : TradeStatus) : Eff [.trade, .ctx] w (w.tradeUpdateStatus tid s) := by
  unfold tradeUpdateStatus; simp only; split
  · exact (eff_setTrade ..).trans (eff_completeTrade ..)
  · exact (eff_setTrade ..).le
theorem eff_tradeEnter (tid : Nat) : Eff [.trade, .ctx] w (w.tradeEnter tid) := eff_tradeUpdateStatus ..
theorem eff_tradeExit (tid : Nat) : Eff [.trade, .ctx] w (w.tradeExit tid) := eff_tradeUpdateStatus ..

/-- the footprint of everything that moves an order along its lifecycle -/
abbrev lifecycle : List Kind := [.order, .setOrder, .trade, .ctx]

theorem eff_orderUpdateStatus (oid : Nat) (s : Status) : Eff lifecycle w (w.orderUpdateStatus oid s) := by
  unfold orderUpdateStatus; simp only; split
  · exact (eff_setOrder ..).trans (eff_completeTrade ..)
  · exact (eff_setOrder ..).le
theorem eff_orderExecutable (oid : Nat) : Eff lifecycle w (w.orderExecutable oid) := by
  unfold orderExecutable; split
  · exact (eff_modifyOrder ..).le
  · exact (eff_orderUpdateStatus ..).trans (eff_modifyOrder ..)
theorem eff_orderExecutionComplete (oid : Nat) : Eff lifecycle w (w.orderExecutionComplete oid) :=
  (eff_orderUpdateStatus ..).trans (eff_modifyOrder ..)
theorem eff_orderViolation (oid : Nat) (msg : String) : Eff lifecycle w (w.orderViolation oid msg) := by
  unfold orderViolation; split
  · exact .refl _
  · exact (eff_orderUpdateStatus ..).trans (eff_modifyOrder ..)

theorem eff_blotterAdd (mid oid : Nat) : Eff [.order, .blotter] w (w.blotterAdd mid oid) :=
  (eff_modifyMarket' ..).trans (eff_modifyOrder ..)
theorem eff_blotterComplete (mid oid : Nat) : Eff [.blotter] w (w.blotterComplete mid oid) :=
  eff_modifyMarket' ..

/-! ### transactions -/

/-- a cancel, update or replace request: the controls charge the client, the rest is the order's lifecycle -/
abbrev request : List Kind := .client :: lifecycle

/-- The outcomes of the trading controls, for a property T of (world, refusal): up to a world `w1` they have written at
    most the runner context of a new order and the client's hourly counters; then they refuse, marking the order
    VIOLATION, or let the request pass in `w1`. -/
theorem validateControls_cases (oid cid : Nat) (k : PackKind) (T : World → Option Refusal → Prop)
    (refuse : ∀ w1 msg r, Eff [.ctx, .client] w w1 → T (w1.orderViolation oid msg) (some r))
    (pass : ∀ w1, Eff [.ctx, .client] w w1 → T w1 none) :
    T (w.validateControls oid cid k).1 (w.validateControls oid cid k).2 := by
  unfold validateControls; simp only
  split
  · exact refuse w _ _ (.refl w)
  split
  · exact refuse w _ _ (.refl w)
  have h1 : Eff [.ctx] w (if k = .place then w.setCtx (w.ctx ⟨(w.order! oid).strategy, (w.order! oid).market, (w.order! oid).sel, (w.order! oid).hc⟩) else w) := by
    split
    · exact eff_setCtx ..
    · exact .refl _
  generalize (if k = .place then w.setCtx (w.ctx ⟨(w.order! oid).strategy, (w.order! oid).market, (w.order! oid).sel, (w.order! oid).hc⟩) else w) = w1 at h1
  split
  · exact refuse w1 _ _ h1.le
  · split
    · exact pass _ (h1.trans (eff_setClient ..))
    · exact refuse _ _ _ (h1.trans (eff_setClient ..))

theorem eff_validateControls (oid cid : Nat) (k : PackKind) : Eff request w (w.validateControls oid cid k).1 :=
  validateControls_cases w oid cid k (fun w' _ => Eff request w w') (fun _ _ _ h => h.trans (eff_orderViolation ..)) fun _ h => h.le

theorem eff_validateControls_pass (oid cid : Nat) (k : PackKind) (h : (w.validateControls oid cid k).2 = none) :
    Eff [.ctx, .client] w (w.validateControls oid cid k).1 :=
  validateControls_cases w oid cid k (fun w' r => r = none → Eff [.ctx, .client] w w') (fun _ _ _ _ => nofun) (fun _ h _ => h) h

theorem eff_addPackage (k : PackKind) (t : Txn) (d bd : Rat) (vc : Option Int × List Nat) : Eff [.enqueue] w (addPackage k t d bd w vc) :=
  .one (.enqueue w _)
theorem eff_createPackages (t : Txn) (pend : List (Nat × Option Int)) (k : PackKind) : Eff [.enqueue] w (w.createPackages t pend k) :=
  Eff.foldl _ (fun w _ => eff_addPackage w ..) _ w
theorem eff_pack (t : Txn) (pk : List (Nat × Option Int) × PackKind) : Eff [.enqueue] w (pack t w pk) := by
  unfold pack; split
  · exact .refl _
  · exact eff_createPackages ..
theorem eff_txnExecute (t : Txn) : Eff [.enqueue] w (w.txnExecute t).1 :=
  Eff.foldl (pack t) (fun w pk => eff_pack w t pk) (pendingLists t) w
theorem eff_txnExit (t : Txn) : Eff [.enqueue] w (w.txnExit t) := by
  unfold txnExit; split
  · exact eff_txnExecute ..
  · exact .refl _

/-- filing a placement: the order, its trade and runner context, the blotter, the trade event -/
abbrev filing : List Kind := .blotter :: .out :: lifecycle
/-- a placement request: the controls, then the filing -/
abbrev placing : List Kind := .client :: filing

theorem filePlacement_cases (t : Txn) (oid : Nat) (v : Option Int) (ex : Bool) :
    ∃ w1, Eff [.order] w w1 ∧ Eff [.out, .ctx] ((w1.orderPlacing oid).blotterAdd t.market oid) (w.filePlacement t oid v ex) := by
  unfold filePlacement
  extract_lets book w1 w2 o nt w3 w4
  refine ⟨w1, eff_modifyOrder w oid _, ?_⟩
  have h4 : Eff [.out, .ctx] w3 w4 := by
    unfold w4; split
    · exact (eff_emit ..).le
    · exact .refl _
  split
  · exact h4.trans (eff_ctxPlace ..)
  · exact h4

theorem eff_filePlacement (t : Txn) (oid : Nat) (v : Option Int) (ex : Bool) : Eff filing w (w.filePlacement t oid v ex) := by
  obtain ⟨w1, h1, h⟩ := filePlacement_cases w t oid v ex
  exact ((h1.trans (eff_orderUpdateStatus w1 oid .pending) (T := filing)).trans (eff_blotterAdd _ t.market oid) (T := filing)).trans h

theorem eff_placeControls (t : Txn) (oid : Nat) (ex force : Bool) : Eff request w (w.placeControls t oid ex force).1 := by
  unfold placeControls; dsimp only; split
  · exact (eff_modifyOrder w oid _).trans (eff_validateControls ..)
  · exact (eff_modifyOrder w oid _).le

theorem eff_txnPlace (t : Txn) (oid : Nat) (v : Option Int) (ex force : Bool) : Eff placing w (w.txnPlace t oid v ex force).1 :=
  txnPlace_cases w t oid v ex force (fun w' _ => Eff placing w w') (eff_placeControls ..).le
    fun _ _ => (eff_placeControls ..).trans (eff_filePlacement ..)

/-- the immediate placement of a replacement order runs no controls -/
theorem eff_txnPlace_noexec (t : Txn) (oid : Nat) (v : Option Int) : Eff filing w (w.txnPlace t oid v false false).1 :=
  have hc : Eff [.order] w (w.placeControls t oid false false).1 := eff_modifyOrder w oid _
  txnPlace_cases w t oid v false false (fun w' _ => Eff filing w w') hc.le fun _ _ => hc.trans (eff_filePlacement ..)

/-- An accepted cancel, update or replace: the order was EXECUTABLE; request data are noted on it (a change of `ud` or `sim`,
    which its core does not show) and it goes in flight. -/
def Rules.Accepts (w w' : World) (a : Nat) : Prop :=
  (w.order! a).status = some .executable ∧ ∃ (f : Order → Order) (s : Status), (∀ x, (f x).core = x.core) ∧
    (s = .cancelling ∨ s = .updating ∨ s = .replacing) ∧ w' = (w.setOrder (f (w.order! a))).orderUpdateStatus a s

theorem Rules.Accepts.eff {w w' : World} {a : Nat} (h : Rules.Accepts w w' a) : Eff lifecycle w w' := by
  obtain ⟨_, g, s, _, _, rfl⟩ := h
  exact (eff_setOrder w _).trans (eff_orderUpdateStatus _ a s)

theorem Rules.orderCancel_accepts {w w' : World} {a : Nat} {red : Option Rat} (h : w.orderCancel a red = .ok w') : Rules.Accepts w w' a :=
  ⟨(orderCancel_ok h).1, fun o => { o with ud := { o.ud with hasReduction := true, sizeReduction := red } }, .cancelling, fun _ => rfl, Or.inl rfl,
    (orderCancel_ok h).2⟩
theorem Rules.orderUpdate_accepts {w w' : World} {a : Nat} {pers : String} (h : w.orderUpdate a pers = .ok w') : Rules.Accepts w w' a :=
  ⟨(orderUpdate_ok h).1, fun o => { o with sim := { o.sim with persistence := pers } }, .updating, fun _ => rfl, Or.inr (Or.inl rfl),
    (orderUpdate_ok h).2⟩
theorem Rules.orderReplace_accepts {w w' : World} {a : Nat} {price : Rat} (h : w.orderReplace a price = .ok w') : Rules.Accepts w w' a :=
  ⟨(orderReplace_ok h).1, fun o => { o with ud := { o.ud with newPrice := some price } }, .replacing, fun _ => rfl, Or.inr (Or.inr rfl),
    (orderReplace_ok h).2⟩

theorem eff_txnRequest (t : Txn) (oid : Nat) (f : Bool) (k : PackKind) (op : World → Except ReqErr World) (file : Txn → Txn)
    (hop : ∀ w w', op w = .ok w' → Eff lifecycle w w') : Eff request w (txnRequest w t oid f k op file).1 :=
  txnRequest_cases w t oid f k op file (fun w' _ => Eff request w w') (.refl w) fun w1 h1 => by
    have k1 : Eff request w w1 := by
      rcases h1 with rfl | rfl
      · exact .refl _
      · exact eff_validateControls ..
    exact ⟨k1, fun w2 h2 => k1.trans (hop w1 w2 h2)⟩

theorem eff_txnCancel (t : Txn) (oid : Nat) (red : Option Rat) (f : Bool) : Eff request w (w.txnCancel t oid red f).1 :=
  txnCancel_eq w .. ▸ eff_txnRequest w t oid f _ _ _ fun _ _ h => (Rules.orderCancel_accepts h).eff
theorem eff_txnUpdate (t : Txn) (oid : Nat) (p : String) (f : Bool) : Eff request w (w.txnUpdate t oid p f).1 :=
  txnUpdate_eq w .. ▸ eff_txnRequest w t oid f _ _ _ fun _ _ h => (Rules.orderUpdate_accepts h).eff
theorem eff_txnReplace (t : Txn) (oid : Nat) (p : Rat) (v : Option Int) (f : Bool) : Eff request w (w.txnReplace t oid p v f).1 :=
  txnReplace_eq w .. ▸ eff_txnRequest w t oid f _ _ _ fun _ _ h => (Rules.orderReplace_accepts h).eff

/-! ### simulated execution -/

theorem eff_logPlaced (oid : Nat) (b : Option Nat) : Eff [.order, .out] w (w.logPlaced oid b) := by
  unfold logPlaced; cases b with
  | none => exact (eff_modifyOrder ..).le
  | some b => exact ((eff_modifyOrder ..).trans (eff_modifyOrder ..) (T := [.order])).trans (eff_emit ..)

/-- what a per-order step of a response handler writes: no client, no queue -/
abbrev handling : List Kind := .newOrder :: .betId :: filing

theorem placeStep_cases (p : Package) (oid : Nat) :
    ∃ w1, Eff [.order, .trade, .ctx, .betId, .out] w w1 ∧
      (placeStep p w oid = (w1.orderExecutable oid).tradeExit (w.order! oid).trade ∨
       placeStep p w oid = (w1.orderExecutionComplete oid).tradeExit (w.order! oid).trade) := by
  unfold placeStep
  extract_lets o w1 pr w2 w3 w4
  refine ⟨w3, ?_, ?_⟩
  · have h1 : Eff [.trade, .ctx, .betId] w w1 := (eff_tradeEnter w o.trade).trans (eff_bumpBetId _)
    have h3 : Eff [.order, .out] w1 w3 := (eff_modifyOrder w1 oid _).trans (eff_logPlaced w2 oid _)
    exact h1.trans h3
  · unfold w4; split
    · exact .inl rfl
    · exact .inr rfl

theorem cancelOne_cases (p : Package) (oid : Nat) :
    ∃ w1, Eff [.order, .trade, .ctx] w w1 ∧
      (w.cancelOne p oid = (w1.orderExecutable oid).tradeExit (w.order! oid).trade ∨
       w.cancelOne p oid = (w1.orderExecutionComplete oid).tradeExit (w.order! oid).trade) := by
  unfold cancelOne
  extract_lets o w1 book red r w2 w3
  refine ⟨w2, (eff_tradeEnter w o.trade).trans (eff_modifyOrder w1 oid _), ?_⟩
  unfold w3; split
  · split
    · exact .inr rfl
    · exact .inl rfl
  · exact .inl rfl

theorem updateOne_cases (p : Package) (oid : Nat) :
    ∃ w1, Eff [.order, .trade, .ctx] w w1 ∧ w.updateOne p oid = (w1.orderExecutable oid).tradeExit (w.order! oid).trade :=
  ⟨_, (eff_tradeEnter w _).trans (eff_modifyOrder _ oid _), rfl⟩

theorem eff_placeStep (p : Package) (oid : Nat) : Eff (.betId :: .out :: lifecycle) w (placeStep p w oid) := by
  obtain ⟨w1, h1, e | e⟩ := placeStep_cases w p oid <;> rw [e]
  · exact (h1.le.append (eff_orderExecutable w1 oid).le).append (eff_tradeExit _ _).le
  · exact (h1.le.append (eff_orderExecutionComplete w1 oid).le).append (eff_tradeExit _ _).le

theorem eff_cancelOne (p : Package) (oid : Nat) : Eff lifecycle w (w.cancelOne p oid) := by
  obtain ⟨w1, h1, e | e⟩ := cancelOne_cases w p oid <;> rw [e]
  · exact (h1.trans (eff_orderExecutable w1 oid) (T := lifecycle)).trans (eff_tradeExit _ _)
  · exact (h1.trans (eff_orderExecutionComplete w1 oid) (T := lifecycle)).trans (eff_tradeExit _ _)

theorem eff_updateOne (p : Package) (oid : Nat) : Eff lifecycle w (w.updateOne p oid) := by
  obtain ⟨w1, h1, e⟩ := updateOne_cases w p oid
  rw [e]; exact (h1.trans (eff_orderExecutable w1 oid) (T := lifecycle)).trans (eff_tradeExit _ _)

theorem _root_.Flumine.OL.Appended.eff {w w' : World} {o : Order} (h : OL.Appended w o w') : Eff [.newOrder, .trade] w w' := by
  obtain ⟨ts, rfl⟩ := h.eq
  exact (Eff.one (.newOrder w o h.id) (S := [.newOrder])).trans (Eff.one (.trade _ ts) (S := [.trade]))

/-- (named `_stages`: `Fl.replaceRest_cases` is what it says of a well-formed world, where the placement is not refused) -/
theorem replaceRest_stages (p : Package) (o : Order) (a : Nat) (book : Book) (np : Option Rat) (sc : Rat) :
    ∃ w3, Eff [.order] (w.createReplacement a (np.getD 0) sc p.created).1 w3 ∧
      ((∃ w5 c, Eff [.order, .out] w3 w5 ∧ replaceRest p w o a book np sc =
          ((w5.txnPlace { market := p.market, client := c } w.orders.length none false false).1.orderExecutable w.orders.length).tradeExit o.trade) ∨
       replaceRest p w o a book np sc = ((w3.orderExecutionComplete w.orders.length).orderExecutable a).tradeExit o.trade) := by
  unfold replaceRest
  extract_lets cr rid w2 r c runner pr w3 w4 w5 tp
  refine ⟨w3, eff_modifyOrder w2 rid _, ?_⟩
  split
  · exact .inl ⟨w5, _, (eff_modifyOrder w3 rid _).trans (eff_emit w4 _), rfl⟩
  · exact .inr rfl

theorem eff_replaceRest (p : Package) (o : Order) (a : Nat) (book : Book) (np : Option Rat) (sc : Rat) :
    Eff handling w (replaceRest p w o a book np sc) := by
  obtain ⟨w3, h3, ⟨w5, c, h5, e⟩ | e⟩ := replaceRest_stages w p o a book np sc <;> rw [e]
  all_goals have k3 : Eff handling w w3 := (createReplacement_appended w a _ _ _).eff.trans h3
  · have h6 : Eff handling w5 _ :=
      (eff_txnPlace_noexec w5 { market := p.market, client := c } w.orders.length none).trans (eff_orderExecutable _ w.orders.length)
    exact ((k3.append h5.le).append h6).append (eff_tradeExit _ _).le
  · have h5 : Eff handling w3 _ := (eff_orderExecutionComplete w3 w.orders.length).trans (eff_orderExecutable _ a)
    exact (k3.append h5).append (eff_tradeExit _ _).le

theorem replaceStep_cases (p : Package) (acc : World × Nat) (pr : Nat × Option Rat) :
    ∃ w2, Eff [.order, .trade, .ctx] acc.1 w2 ∧
      ((replaceStep p acc pr).1 = (w2.orderExecutable pr.1).tradeExit (acc.1.order! pr.1).trade ∨
       ∃ book sc, (replaceStep p acc pr).1 =
        replaceRest p (w2.orderExecutionComplete pr.1).bumpBetId (acc.1.order! pr.1) pr.1 book pr.2 sc) := by
  obtain ⟨w, failed⟩ := acc
  obtain ⟨a, newPrice⟩ := pr
  unfold replaceStep
  dsimp -zeta only
  extract_lets o w1 book red cr w2
  refine ⟨w2, (eff_tradeEnter w _).trans (eff_modifyOrder w1 a _), ?_⟩
  clear_value w1 w2
  split
  · exact Or.inl rfl
  · exact Or.inr ⟨book, _, replacePlace_fst ..⟩

theorem eff_replaceStep (p : Package) (acc : World × Nat) (pr : Nat × Option Rat) : Eff handling acc.1 (replaceStep p acc pr).1 := by
  obtain ⟨w2, h2, e | ⟨book, sc, e⟩⟩ := replaceStep_cases p acc pr <;> rw [e]
  · exact (h2.trans (eff_orderExecutable w2 _) (T := handling)).trans (eff_tradeExit _ _)
  · exact ((h2.trans (eff_orderExecutionComplete w2 _) (T := handling)).trans (eff_bumpBetId _) (T := handling)).append (eff_replaceRest ..)

theorem eff_placeLoop (p : Package) (l : List Nat) : Eff (.betId :: .out :: lifecycle) w (l.foldl (placeStep p) w) :=
  Eff.foldl _ (fun w oid => eff_placeStep w p oid) l w
theorem eff_cancelLoop (p : Package) (l : List Nat) (acc : World × Nat) : Eff lifecycle acc.1 (l.foldl (cancelStep p) acc).1 :=
  foldl_fst (cancelStep p) (fun w a => w.cancelOne p a) (cancelStep_fst p) l acc ▸ Eff.foldl _ (fun w oid => eff_cancelOne w p oid) l acc.1
theorem eff_updateLoop (p : Package) (l : List Nat) (acc : World × Nat) : Eff lifecycle acc.1 (l.foldl (updateStep p) acc).1 :=
  foldl_fst (updateStep p) (fun w a => w.updateOne p a) (updateStep_fst p) l acc ▸ Eff.foldl _ (fun w oid => eff_updateOne w p oid) l acc.1
theorem eff_replaceLoop (p : Package) (l : List (Nat × Option Rat)) (acc : World × Nat) : Eff handling acc.1 (l.foldl (replaceStep p) acc).1 :=
  Eff.foldlOn Prod.fst _ (eff_replaceStep p) l acc

/-- a response handler: its per-order steps and the closing `client.add_transaction` -/
abbrev executing : List Kind := .client :: handling

theorem eff_chargeHandler (p : Package) : Eff [.client] (w.handlerLoop p) (w.executePackage p) := by
  have hfail (w : World) (failed : Nat) : Eff [.client] w (if failed ≠ 0 then w.addTransaction p.client failed true else w) := by
    split
    · exact eff_addTransaction ..
    · exact .refl _
  unfold handlerLoop executePackage
  cases p.kind with
  | place => exact eff_addTransaction ..
  | cancel => exact hfail _ _
  | update => exact hfail _ _
  | replace => exact (eff_addTransaction ..).trans (hfail _ _)

theorem eff_handlerLoop (p : Package) : Eff handling w (w.handlerLoop p) := by
  unfold handlerLoop
  cases p.kind with
  | place => exact (eff_placeLoop w p _).le
  | cancel => exact (eff_cancelLoop p _ (w, 0)).le
  | update => exact (eff_updateLoop p _ (w, 0)).le
  | replace => exact eff_replaceLoop p _ (w, 0)

theorem eff_executePackage (p : Package) : Eff executing w (w.executePackage p) :=
  (eff_handlerLoop w p).trans (eff_chargeHandler w p)

theorem eff_checkPendingPackages (mid : Nat) : Eff (.dequeue :: executing) w (w.checkPendingPackages mid) := by
  unfold checkPendingPackages
  extract_lets due w1
  have h1 : Eff executing w w1 := Eff.foldl _ (fun w p => eff_executePackage w p) due w
  exact h1.trans (Eff.one (.dequeue w1 _) (S := [.dequeue]))

/-! ### middleware, completion loop, closure -/

theorem eff_processRunnerRemoval (mid rsel : Nat) (rhc : Rat) (raf : Option Rat) : Eff [.order] w (w.processRunnerRemoval mid rsel rhc raf) :=
  Eff.foldl _ (fun w1 oid => eff_modifyOrder w1 oid _ fun x => by
    obtain ⟨s, h⟩ := removalOnOrder_eq w1 (w.market! mid) rsel rhc raf x; rw [h]; rfl) _ w

theorem matchStep_cases (mid : Nat) (r : Bool) (acc : World × List (Nat × Rat × List (Rat × Rat))) (o0 : Order) :
    (matchStep mid r acc o0).1 = acc.1 ∨
    ∃ w1, Eff [.order] acc.1 w1 ∧
      ((matchStep mid r acc o0).1 = w1 ∨ (matchStep mid r acc o0).1 = w1.orderExecutionComplete (acc.1.order! o0.id).id) := by
  obtain ⟨w, lk⟩ := acc
  rw [matchStep_eq]
  by_cases hr : (r && !isMwLive (w.order! o0.id)) = true
  · exact .inl (by rw [if_pos hr])
  · rw [if_neg hr]
    refine .inr ⟨_, eff_modifyOrder w (w.order! o0.id).id fun x => { x with sim := (matchCall mid w lk o0).1 }, ?_⟩
    by_cases hc : (matchCall mid w lk o0).2.2 = true
    · exact .inr (by rw [if_pos hc])
    · exact .inl (by rw [if_neg hc])

theorem eff_matchStep (mid : Nat) (r : Bool) (acc : World × List (Nat × Rat × List (Rat × Rat))) (o0 : Order) :
    Eff lifecycle acc.1 (matchStep mid r acc o0).1 := by
  rcases matchStep_cases mid r acc o0 with e | ⟨w1, h1, e | e⟩ <;> rw [e]
  · exact .refl _
  · exact h1.le
  · exact h1.trans (eff_orderExecutionComplete ..)

theorem eff_matchOrders (mid : Nat) (l : List Order) (r : Bool) : Eff lifecycle w (w.matchOrders mid l r) :=
  Eff.foldlOn Prod.fst _ (eff_matchStep mid r) l (w, _)

theorem eff_matchStrategy (mid sid : Nat) : Eff lifecycle w (matchStrategy mid w sid) :=
  matchStrategy_eq mid w sid ▸ eff_matchOrders ..

theorem eff_mwProcessSimulatedOrders (mid : Nat) : Eff lifecycle w (w.mwProcessSimulatedOrders mid) := by
  unfold mwProcessSimulatedOrders; dsimp only; split
  · exact Eff.foldl _ (fun w sid => eff_matchStrategy w mid sid) _ w
  · split
    · exact .refl _
    · exact eff_matchOrders ..

theorem eff_mwUpdateAnalytics (mid : Nat) : Eff [.removals, .mrem] w (w.mwUpdateAnalytics mid).1 :=
  (Eff.one (.removals w _) (S := [.removals])).trans
    (Eff.one (.mrem _ (fun x => if x.id = mid then _ else x) fun x => by split <;> rfl) (S := [.mrem]))

theorem eff_removalsLoop (mid : Nat) : Eff [.order] (w.mwUpdateAnalytics mid).1 (w.applyRemovals mid) :=
  Eff.foldl _ (fun w (k : Nat × Rat × Option Rat) => eff_processRunnerRemoval w mid k.1 k.2.1 k.2.2) _ _

theorem eff_applyRemovals (mid : Nat) : Eff [.order, .removals, .mrem] w (w.applyRemovals mid) :=
  (eff_mwUpdateAnalytics w mid).trans (eff_removalsLoop w mid)

/-- the middleware after `mwUpdateAnalytics`, its one write to the markets: the removals applied, then the matching -/
theorem eff_afterAnalytics (mid : Nat) : Eff lifecycle (w.mwUpdateAnalytics mid).1 (w.simulatedMiddleware mid) := by
  rw [simulatedMiddleware_eq]; split
  · exact (eff_removalsLoop w mid).trans (eff_mwProcessSimulatedOrders ..)
  · exact (eff_removalsLoop w mid).le

theorem eff_simulatedMiddleware (mid : Nat) : Eff (.removals :: .mrem :: lifecycle) w (w.simulatedMiddleware mid) :=
  (eff_mwUpdateAnalytics w mid).trans (eff_afterAnalytics w mid)

theorem eff_blotterProcessClosed (mid : Nat) (book : Book) : Eff [.setOrder] w (w.blotterProcessClosed mid book) := by
  unfold blotterProcessClosed
  extract_lets n m
  refine Eff.foldl _ (fun w oid => ?_) m.blotter w
  dsimp only; split
  · exact .refl _
  · exact eff_setOrder ..

theorem preClose_cases (mid : Nat) (book : Book) (m : Market) :
    ∃ w2, Eff [.market] w w2 ∧ C20.preClose w mid book m = w2.blotterProcessClosed mid book := by
  refine ⟨_, Eff.trans (?_ : Eff [.market] w _) (eff_modifyMarket _ mid _), rfl⟩
  split
  · exact eff_modifyMarket ..
  · exact .refl _

theorem eff_preClose (mid : Nat) (book : Book) (m : Market) : Eff [.setOrder, .market] w (C20.preClose w mid book m) := by
  obtain ⟨w2, h2, e⟩ := preClose_cases w mid book m
  rw [e]; exact h2.trans (eff_blotterProcessClosed ..)

theorem eff_closeOut (mid : Nat) (book : Book) : Eff [.cc, .market, .ctx] w (w.closeOut mid book) :=
  ((Eff.one (.cc w _) (S := [.cc])).trans (eff_modifyMarket _ mid _) (T := [.cc, .market])).trans (Eff.one (.ctx _ _) (S := [.ctx]))

theorem eff_processCloseMarket (mid : Nat) (book : Book) : Eff [.setOrder, .market, .out, .cc, .ctx] w (w.processCloseMarket mid book) := by
  cases h : w.market? mid with
  | none => rw [processCloseMarket_none w mid book h]; exact (eff_emit ..).le
  | some m => rw [processCloseMarket_some w mid book m h]; exact (eff_preClose w mid book m).trans (eff_closeOut _ mid book)

theorem eff_processOrdersCallbacks (mid : Nat) : Eff [.out] w (C15.processOrdersCallbacks w mid) := by
  refine Eff.foldl _ (fun w s => ?_) w.strategies w
  dsimp only; split
  · exact eff_emit ..
  · exact .refl _

theorem eff_processSimulatedOrders (mid : Nat) : Eff (.blotter :: .out :: lifecycle) w (w.processSimulatedOrders mid) := by
  rw [C15.processSimulatedOrders_loop]
  refine Eff.trans (?_ : Eff (.blotter :: lifecycle) w _) (eff_processOrdersCallbacks _ mid)
  refine Eff.foldl _ (fun w oid => ?_) _ w
  rcases C15.loopStep_keeps_or_completes mid w oid with h | ⟨_, h⟩ | h <;> rw [h]
  · exact .refl _
  · exact (eff_blotterComplete ..).le
  · exact (eff_orderExecutionComplete w oid).trans (eff_blotterComplete _ mid oid)

/-! ### scripted actions -/

/-- what a scripted action other than a foreign-request note can write -/
abbrev acting : List Kind := .newOrder :: .enqueue :: placing

/-- One scripted action is a short sequence of transaction steps: opening a transaction (`openTxn`), a request through
    the open one, `execute`, leaving it (`exit`), or the creation of an order.  T relates (world, open transaction) before
    and after; a request made outside a block is `openTxn`, the request, `exit`.  The transaction `t` of a request is the
    open one, or a new one for the market of the update.  Cancel, update and replace are ONE case: a request through
    `txnRequest` whose guard `op` accepts in the sense of `Accepts` and whose `file` notes the order in the transaction
    (same market, flagged as pending). -/
theorem Rules.doActionCore (T : World → Option Txn → World → Option Txn → Prop)
    (refl : ∀ w b, T w b w b) (trans : ∀ {w1 b1 w2 b2 w3 b3}, T w1 b1 w2 b2 → T w2 b2 w3 b3 → T w1 b1 w3 b3)
    (w : World) (mid : Nat) (batch : Option Txn) (a : Action)
    (openTxn : ∀ w c, T w none w (some { market := mid, client := c }))
    (exit : ∀ w t, T w (some t) (w.txnExit t) none)
    (exec : ∀ t, T w (some t) (w.txnExecute t).1 (some (w.txnExecute t).2))
    (create : ∀ (r : Order) (w' : World), OL.Appended w r w' → T w batch w' batch)
    (place : ∀ t tg v force, a = .place tg v force → tg.missing w = false → (batch = some t ∨ batch = none ∧ t.market = mid) →
      T w (some t) (w.txnPlace t (tg.resolve w) v true force).1 (some (w.txnPlace t (tg.resolve w) v true force).2.1))
    (request : ∀ t tg force k op file, a.target? = some tg → tg.missing w = false → (batch = some t ∨ batch = none ∧ t.market = mid) →
      (∀ v v', op v = .ok v' → Rules.Accepts v v' (tg.resolve w)) → (Fl.txnIds (file t)).Perm (tg.resolve w :: Fl.txnIds t) →
      (file t).market = t.market → (file t).pendingOrders = true →
      T w (some t) (w.txnRequest t (tg.resolve w) force k op file).1 (some (w.txnRequest t (tg.resolve w) force k op file).2.1)) :
    T w batch (w.doActionCore mid batch a).1 (w.doActionCore mid batch a).2.1 := by
  unfold World.doActionCore
  extract_lets direct
  have hd (c : Nat) (f : World → Txn → World × Txn × ReqResult)
      (hf : ∀ t, (batch = some t ∨ batch = none ∧ t.market = mid) → T w (some t) (f w t).1 (some (f w t).2.1)) :
      T w batch (direct c f).1 (direct c f).2.1 := by
    unfold direct
    cases batch with
    | some t => exact hf t (Or.inl rfl)
    | none => exact trans (trans (openTxn w c) (hf _ (Or.inr ⟨rfl, rfl⟩))) (exit _ _)
  by_cases hmiss : (a.target?.map (·.missing w)).getD false = true
  · rw [if_pos hmiss]
    exact refl w batch
  · rw [if_neg hmiss]
    have hm : ∀ tg, a.target? = some tg → tg.missing w = false := by
      intro tg htg; rw [htg] at hmiss; simpa using hmiss
    cases a with
    | create o tr =>
      cases tr <;> exact create _ _ ⟨rfl, rfl, rfl, rfl, _, rfl⟩
    | place tg v force => exact hd _ (fun w' t => w'.txnPlace t (tg.resolve w) v true force) fun t => place t tg v force rfl (hm tg rfl)
    | cancel tg red force =>
      exact hd _ (fun w' t => w'.txnCancel t (tg.resolve w) red force) fun t hb => txnCancel_eq w t _ red force ▸
        request t tg force _ _ _ rfl (hm tg rfl) hb (fun _ _ => Rules.orderCancel_accepts) (Fl.txnIds_cancel t (_, none) true) rfl rfl
    | update tg pers force =>
      exact hd _ (fun w' t => w'.txnUpdate t (tg.resolve w) pers force) fun t hb => txnUpdate_eq w t _ pers force ▸
        request t tg force _ _ _ rfl (hm tg rfl) hb (fun _ _ => Rules.orderUpdate_accepts) (Fl.txnIds_update t (_, none) true) rfl rfl
    | replace tg price v force =>
      exact hd _ (fun w' t => w'.txnReplace t (tg.resolve w) price v force) fun t hb => txnReplace_eq w t _ price v force ▸
        request t tg force _ _ _ rfl (hm tg rfl) hb (fun _ _ => Rules.orderReplace_accepts) (Fl.txnIds_replace t (_, v) true) rfl rfl
    | batchBegin c =>
      cases batch with
      | some t => exact trans (exit w t) (openTxn _ c)
      | none => exact openTxn w c
    | batchExecute =>
      cases batch with
      | some t => exact exec t
      | none => exact refl w none
    | batchEnd =>
      cases batch with
      | some t => exact exit w t
      | none => exact refl w none

theorem eff_doActionCore (mid : Nat) (batch : Option Txn) (a : Action) : Eff acting w (w.doActionCore mid batch a).1 :=
  Rules.doActionCore (fun w _ w' _ => Eff acting w w') (fun w _ => .refl w) .append w mid batch a
    (fun w _ => .refl w) (fun w t => (eff_txnExit w t).le) (fun t => (eff_txnExecute w t).le) (fun _ _ h => h.eff.le)
    (fun t tg v force _ _ _ => (eff_txnPlace w t _ v true force).le)
    fun t tg force k op file _ _ _ hop _ _ _ => (eff_txnRequest w t _ force k op file fun v v' h => (hop v v' h).eff).le

theorem eff_noteForeign (mid : Nat) (a : Action) : Eff [.foreign] w (w.noteForeign mid a) := by
  unfold noteForeign; split
  · exact .one (.foreign w _)
  · exact .refl _

theorem eff_doAction (mid : Nat) (batch : Option Txn) (a : Action) : Eff (.foreign :: acting) w (w.doAction mid batch a).1 :=
  (eff_noteForeign ..).trans (eff_doActionCore ..)

/-- The actions of one callback: each action is a step of T, and so is leaving a transaction that is still open at the end. -/
theorem Rules.doActions (T : World → Option Txn → World → Option Txn → Prop) (refl : ∀ w b, T w b w b)
    (trans : ∀ {w1 b1 w2 b2 w3 b3}, T w1 b1 w2 b2 → T w2 b2 w3 b3 → T w1 b1 w3 b3) (mid : Nat)
    (act : ∀ w b a, T w b (w.doAction mid b a).1 (w.doAction mid b a).2.1) (exit : ∀ w t, T w (some t) (w.txnExit t) none)
    (w : World) (as : List Action) : T w none (w.doActions mid as).1 none := by
  unfold World.doActions
  have := foldl_steps (R := fun x y : World × Option Txn => T x.1 x.2 y.1 y.2) (fun _ => refl _ _) trans (fun acc => (acc.1, acc.2.1))
    (fun (acc : World × Option Txn × List String) a =>
      match acc with
      | (w, b, outs) => match w.doAction mid b a with
        | (w, b, r) => (w, b, outs ++ [r]))
    (fun acc a => act acc.1 acc.2.1 a) as (w, none, [])
  generalize List.foldl _ (w, none, []) as = r at this ⊢
  obtain ⟨w1, b, outs⟩ := r
  cases b with
  | some t => exact trans this (exit w1 t)
  | none => exact this

theorem eff_doActions (mid : Nat) (as : List Action) : Eff (.foreign :: acting) w (w.doActions mid as).1 :=
  Rules.doActions (fun w _ w' _ => Eff (.foreign :: acting) w w') (fun w _ => .refl w) .append mid (fun w b a => eff_doAction w mid b a)
    (fun w t => (eff_txnExit w t).le) w as

/-! ### a whole update -/

abbrev anything : List Kind :=
  [.order, .setOrder, .newOrder, .trade, .ctx, .market, .blotter, .mrem, .newMarket, .removals, .enqueue, .dequeue, .client, .betId, .out, .cc,
   .foreign, .clock]

theorem eff_arrive (mid : Nat) (book : Book) : Eff (.clock :: .dequeue :: executing) w (w.arrive mid book) := by
  unfold arrive; dsimp only; split
  · exact (eff_setClock ..).le
  · exact (eff_setClock ..).trans (eff_checkPendingPackages ..)

theorem receive_cases (mid : Nat) (book : Book) :
    ((w.market? mid).isNone = true ∧
      Eff [.market, .out] ({ w with markets := w.markets ++ [({ id := mid, book := some book } : Market)] } : World) (w.receive mid book)) ∨
    (¬ (w.market? mid).isNone = true ∧ Eff [.market] w (w.receive mid book)) := by
  unfold receive
  by_cases hn : (w.market? mid).isNone = true
  · rw [if_pos hn]
    exact .inl ⟨hn, (eff_emit ..).trans (eff_modifyMarket ..)⟩
  · rw [if_neg hn]
    refine .inr ⟨hn, ?_⟩
    split
    · exact (eff_modifyMarket ..).trans (eff_modifyMarket ..)
    · exact eff_modifyMarket ..

theorem eff_receive (mid : Nat) (book : Book) : Eff [.market, .newMarket, .out] w (w.receive mid book) := by
  rcases receive_cases w mid book with ⟨_, h⟩ | ⟨_, h⟩
  · exact (Eff.one (.newMarket w _) (S := [.newMarket])).trans h
  · exact h.le

theorem eff_settle (mid : Nat) : Eff (.removals :: .mrem :: .blotter :: .out :: lifecycle) w (w.settle mid) := by
  unfold settle; dsimp only; split
  · exact (eff_simulatedMiddleware ..).trans (eff_processSimulatedOrders ..)
  · exact (eff_simulatedMiddleware ..).le

theorem callback_cases (isNew : Bool) (mid : Nat) (book : Book) (script : Nat → List Action) (s : Strategy) :
    callback isNew mid book script w s = w ∨
    ∃ w1, Eff [.out] w w1 ∧ callback isNew mid book script w s = (w1.doActions mid (script s.id)).1 := by
  unfold callback
  by_cases hs : s.streams.contains book.streamId = true
  · rw [if_pos hs]
    refine .inr ⟨_, Eff.trans (?_ : Eff [.out] w _) (eff_emit _ _), rfl⟩
    split
    · exact eff_emit ..
    · exact .refl _
  · exact .inl (if_neg hs)

theorem eff_callback (isNew : Bool) (mid : Nat) (book : Book) (script : Nat → List Action) (s : Strategy) :
    Eff (.foreign :: acting) w (callback isNew mid book script w s) := by
  rcases callback_cases w isNew mid book script s with e | ⟨w1, h1, e⟩ <;> rw [e]
  · exact .refl _
  · exact h1.trans (eff_doActions ..)

theorem eff_callbacks (isNew : Bool) (mid : Nat) (book : Book) (script : Nat → List Action) (ss : List Strategy) :
    Eff (.foreign :: acting) w (ss.foldl (callback isNew mid book script) w) :=
  Eff.foldl _ (fun w s => eff_callback w isNew mid book script s) ss w

/-- an update: the due packages, then the close - or the book received, settled and handed to the strategies -/
theorem processMarketBook_cases (mid : Nat) (book : Book) (script : Nat → List Action) :
    ∃ w1, Eff (.clock :: .dequeue :: executing) w w1 ∧
      (book.status = .closed ∧ (w.processMarketBook mid book script).1 = w1.processCloseMarket mid book ∨
       ¬ book.status = .closed ∧ Eff (.foreign :: acting) ((w1.receive mid book).settle mid) (w.processMarketBook mid book script).1) := by
  rw [processMarketBook_fst]
  refine ⟨_, eff_arrive w mid book, ?_⟩
  by_cases hc : book.status = .closed
  · exact .inl ⟨hc, if_pos hc⟩
  · exact .inr ⟨hc, if_neg hc ▸ eff_callbacks ..⟩

theorem eff_processMarketBook (mid : Nat) (book : Book) (script : Nat → List Action) :
    Eff anything w (w.processMarketBook mid book script).1 := by
  obtain ⟨w1, h1, ⟨_, e⟩ | ⟨_, h4⟩⟩ := processMarketBook_cases w mid book script
  · rw [e]; exact h1.trans (eff_processCloseMarket ..)
  · exact (h1.trans ((eff_receive w1 mid book).trans (eff_settle _ mid) (T := anything)) (T := anything)).trans h4

theorem eff_runUpdates (us : List (Nat × Book × (Nat → List Action))) : Eff anything w (Inv.runUpdates w us) := by
  unfold Inv.runUpdates
  exact Eff.foldl _ (fun w u => eff_processMarketBook w u.1 u.2.1 u.2.2) us w

end walk
end Flumine
