/- Lemmas/Final.lean — finality and the live list of a market M, for every function of an update of any market: the
   blotter invariant `BI M` is kept, and EXECUTION_COMPLETE is absorbing for the orders of the blotter (no request,
   response handler, matching pass, removal or closure makes such an order live again). -/
import Flumine.Lemmas.Inv
namespace Flumine.Fin
open Flumine.World Flumine.OL Flumine.Ids Flumine.Inv
open Flumine.Rules (Handlers Blotters Requests Accepts)

/-- the statuses of an order that has been sent, with `complete` the cached `_is_complete()` of the status -/
def Sent (o : Order) : Prop :=
  (o.status = some .pending ∨ o.status = some .executable ∨ o.status = some .cancelling ∨ o.status = some .updating ∨
    o.status = some .replacing ∨ o.status = some .executionComplete) ∧
  (∀ s, o.status = some s → o.complete = statusComplete s)

/-- the exchange is done with the order: flumine's final status -/
def EC (o : Order) : Prop := o.status = some .executionComplete

theorem Sent.ec_of_complete {o : Order} (h : Sent o) (hc : o.complete = true) : EC o := by
  rcases h.1 with e | e | e | e | e | e
  rotate_right
  · exact e
  -- in any other status the flag would be false
  all_goals exact absurd ((h.2 _ e).symm.trans hc) (by decide)

theorem sent_stamped (o : Order) (now : Time) {s : Status}
    (h : s = .pending ∨ s = .executable ∨ s = .cancelling ∨ s = .updating ∨ s = .replacing ∨ s = .executionComplete) :
    Sent (stamped o now s) :=
  ⟨h.imp (congrArg some) (Or.imp (congrArg some) (Or.imp (congrArg some) (Or.imp (congrArg some) (Or.imp (congrArg some) (congrArg some))))),
    fun _ ht => Option.some.inj ht ▸ rfl⟩

/-- the blotter invariant of market `mid`: whatever `market.blotter` lists has been sent (`sent`), and an order of it that
    `blotter.live_orders` no longer yields is finished (`live`); the world is well-formed (`inv`) -/
structure BI (mid : Nat) (w : World) : Prop where
  inv : Inv w
  sent : ∀ oid ∈ (w.market! mid).blotter, Sent (w.order! oid)
  live : ∀ oid ∈ (w.market! mid).blotter, oid ∉ (w.market! mid).live → EC (w.order! oid)

def Step (mid : Nat) (w w' : World) : Prop :=
  (∀ oid ∈ (w.market! mid).blotter, oid ∈ (w'.market! mid).blotter) ∧
  (∀ oid ∈ (w.market! mid).blotter, EC (w.order! oid) → EC (w'.order! oid))

def FS (mid : Nat) (w w' : World) : Prop := Keeps w w' ∧ (BI mid w → BI mid w' ∧ Step mid w w')

theorem Step.refl (mid : Nat) (w : World) : Step mid w w := ⟨fun _ h => h, fun _ _ h => h⟩

theorem Step.trans {mid : Nat} {a b c : World} (h1 : Step mid a b) (h2 : Step mid b c) : Step mid a c :=
  ⟨fun oid h => h2.1 oid (h1.1 oid h), fun oid hb he => h2.2 oid (h1.1 oid hb) (h1.2 oid hb he)⟩

theorem FS.refl (mid : Nat) (w : World) : FS mid w w := ⟨Keeps.refl w, fun h => ⟨h, Step.refl mid w⟩⟩

theorem FS.trans {mid : Nat} {a b c : World} (h1 : FS mid a b) (h2 : FS mid b c) : FS mid a c :=
  ⟨h1.1.trans h2.1, fun h => by
    obtain ⟨hb, s1⟩ := h1.2 h
    obtain ⟨hc, s2⟩ := h2.2 hb
    exact ⟨hc, s1.trans s2⟩⟩

theorem FS.frame {mid : Nat} {w w' : World} (hg : Good w w')
    (H : BI mid w →
      (∀ oid ∈ (w.market! mid).blotter, (w'.order! oid).status = (w.order! oid).status ∧ (w'.order! oid).complete = (w.order! oid).complete) ∧
      (w'.market! mid).blotter = (w.market! mid).blotter ∧
      (∀ x ∈ (w.market! mid).blotter, x ∉ (w'.market! mid).live → x ∈ (w.market! mid).live → EC (w.order! x))) : FS mid w w' := by
  refine ⟨hg.1, fun h => ?_⟩
  obtain ⟨hs, hb, hl2⟩ := H h
  refine ⟨⟨hg.2 h.inv, ?_, ?_⟩, ?_, ?_⟩
  · intro oid ho
    rw [hb] at ho
    obtain ⟨a, b⟩ := h.sent oid ho
    unfold Sent
    rw [(hs oid ho).1, (hs oid ho).2]; exact ⟨a, b⟩
  · intro oid ho hn
    rw [hb] at ho
    unfold EC; rw [(hs oid ho).1]
    by_cases hin : oid ∈ (w.market! mid).live
    · exact hl2 oid ho hn hin
    · exact h.live oid ho hin
  · intro oid ho; rw [hb]; exact ho
  · intro oid ho he; unfold EC at he ⊢; rw [(hs oid ho).1]; exact he

theorem FS.same {mid : Nat} {w w' : World} (hg : Good w w') (hb : (w'.market! mid).blotter = (w.market! mid).blotter)
    (hl : (w'.market! mid).live = (w.market! mid).live)
    (hs : BI mid w → ∀ oid ∈ (w.market! mid).blotter,
      (w'.order! oid).status = (w.order! oid).status ∧ (w'.order! oid).complete = (w.order! oid).complete) : FS mid w w' :=
  FS.frame hg fun h => ⟨hs h, hb, by rw [hl]; exact fun _ _ h1 h2 => absurd h2 h1⟩

theorem FS.of_good {M : Nat} {w w' : World} (hg : Good w w') (ho : w'.orders = w.orders) (hm : w'.markets = w.markets) : FS M w w' :=
  FS.same hg (by rw [market!_congr w w' hm M]) (by rw [market!_congr w w' hm M]) fun _ oid _ => by rw [order!_congr w w' ho oid]; exact ⟨rfl, rfl⟩

theorem FS.of_eq {mid : Nat} {w w' : World} (ho : w'.orders = w.orders) (hm : w'.markets = w.markets) (hq : ∀ p ∈ w'.queue, p ∈ w.queue) :
    FS mid w w' :=
  FS.of_good (Good.of_eq ho hm hq) ho hm

theorem _root_.Flumine.Calm.fs {w w' : World} (h : Calm w w') (M : Nat) : FS M w w' :=
  FS.same h.good (h.market M).1 (h.market M).2.1 fun _ oid _ => ⟨h.status oid, h.complete oid⟩

theorem FS.hasOrder {M : Nat} {w w' : World} (h : FS M w w') (oid : Nat) (ho : HasOrder w oid) : HasOrder w' oid := h.1.hasOrder oid ho

theorem FS.of {M : Nat} {w w' : World} (k : Keeps w w') (h : BI M w → FS M w w') : FS M w w' := ⟨k, fun hB => (h hB).2 hB⟩

theorem fs_setOrder (mid : Nat) (w : World) (oid : Nat) (o' : Order) (ha : HasOrder w oid) (h : o'.core = (w.order! oid).core) :
    FS mid w (w.setOrder o') :=
  FS.same (good_setOrder w o') rfl rfl fun _ x _ =>
    have c := Calm.order!_setOrder_core w oid ha o' h x
    ⟨Order.status_of_core c, Order.complete_of_core c⟩

/-- `_update_status(s)`: the three conditions on `s` are what `BI.sent`, `BI.live` and `Step` need of an order `a` of the blotter -/
theorem fs_orderUpdateStatus (mid : Nat) (w : World) (a : Nat) (s : Status) (ha : HasOrder w a)
    (hc : BI mid w → a ∈ (w.market! mid).blotter →
      (s = .pending ∨ s = .executable ∨ s = .cancelling ∨ s = .updating ∨ s = .replacing ∨ s = .executionComplete) ∧
      (a ∉ (w.market! mid).live → s = .executionComplete) ∧ (EC (w.order! a) → s = .executionComplete)) :
    FS mid w (w.orderUpdateStatus a s) := by
  have hmk : (w.orderUpdateStatus a s).market! mid = w.market! mid := market!_congr _ _ ((eff_orderUpdateStatus w a s).markets) mid
  refine ⟨(good_orderUpdateStatus w a s).1, fun h => ?_⟩
  -- the market is as it was; so are the orders of its blotter, `a` apart
  have key : ∀ oid ∈ (w.market! mid).blotter, Sent ((w.orderUpdateStatus a s).order! oid) ∧
      (oid ∉ (w.market! mid).live → EC ((w.orderUpdateStatus a s).order! oid)) ∧
      (EC (w.order! oid) → EC ((w.orderUpdateStatus a s).order! oid)) := by
    intro oid ho
    by_cases e : oid = a
    · subst e
      obtain ⟨h1, h2, h3⟩ := hc h ho
      rw [orderUpdateStatus_self w oid s ha]
      exact ⟨sent_stamped _ _ h1, fun hn => congrArg some (h2 hn), fun he => congrArg some (h3 he)⟩
    · rw [orderUpdateStatus_other w oid a s ha e]; exact ⟨h.sent oid ho, h.live oid ho, id⟩
  exact ⟨⟨(good_orderUpdateStatus w a s).2 h.inv, by rw [hmk]; exact fun oid ho => (key oid ho).1,
    by rw [hmk]; exact fun oid ho => (key oid ho).2.1⟩, by rw [hmk]; exact fun _ ho => ho, fun oid ho => (key oid ho).2.2⟩

/-! ### the status primitives -/

theorem ec_complete {mid : Nat} {w : World} (h : BI mid w) (a : Nat) (hb : a ∈ (w.market! mid).blotter)
    (he : EC (w.order! a)) : (w.order! a).complete = true := by
  rw [(h.sent a hb).2 _ he]; decide

theorem fs_orderExecutable (mid : Nat) (w : World) (a : Nat) (ha : HasOrder w a) : FS mid w (w.orderExecutable a) :=
  Rules.orderExecutable (fun h => h.fs mid) FS.trans w a fun hnc => fs_orderUpdateStatus mid w a .executable ha fun h hb =>
    ⟨Or.inr (Or.inl rfl), fun hl => absurd (ec_complete h a hb (h.live a hb hl)) hnc, fun he => absurd (ec_complete h a hb he) hnc⟩

theorem fs_orderExecutionComplete (mid : Nat) (w : World) (a : Nat) (ha : HasOrder w a) : FS mid w (w.orderExecutionComplete a) :=
  Rules.orderExecutionComplete (fun h => h.fs mid) FS.trans w a
    (fs_orderUpdateStatus mid w a .executionComplete ha fun _ _ => ⟨by simp, fun _ => rfl, fun _ => rfl⟩)

/-- an order of the blotter has been sent, so `violation()` leaves it alone -/
theorem fs_orderViolation (mid : Nat) (w : World) (a : Nat) (msg : String) (ha : HasOrder w a) : FS mid w (w.orderViolation a msg) :=
  Rules.orderViolation (fun h => h.fs mid) FS.trans w a msg fun hu => fs_orderUpdateStatus mid w a .violation ha fun h hb => by
    have hs := (h.sent a hb).1
    rcases hu with u | u <;> rw [u] at hs <;> exact absurd hs (by decide)

theorem fs_inflight (mid : Nat) (w : World) (a : Nat) (s : Status) (ha : HasOrder w a)
    (hs : s = .cancelling ∨ s = .updating ∨ s = .replacing) (hx : (w.order! a).status = some .executable) :
    FS mid w (w.orderUpdateStatus a s) := by
  apply fs_orderUpdateStatus mid w a s ha
  intro h hb
  have hne : ¬ EC (w.order! a) := by unfold EC; rw [hx]; simp
  refine ⟨?_, fun hl => absurd (h.live a hb hl) hne, fun he => absurd he hne⟩
  rcases hs with e | e | e <;> rw [e] <;> simp

theorem fs_accepts (M : Nat) {w w' : World} {a : Nat} (ha : HasOrder w a) (h : Accepts w w' a) : FS M w w' := by
  obtain ⟨hx, f, s, hf, hs, rfl⟩ := h
  exact (fs_setOrder M w a _ ha (hf _)).trans (fs_inflight M _ a s (hasOrder_setOrder w _ a ha) hs
    ((Order.status_of_core (Calm.order!_setOrder_core w a ha _ (hf _) a)).trans hx))

/-! ### blotter and live list -/

theorem fs_blotterComplete (mid : Nat) (w : World) (m' oid : Nat)
    (hec : BI mid w → oid ∈ (w.market! mid).blotter → EC (w.order! oid)) : FS mid w (w.blotterComplete m' oid) := by
  unfold blotterComplete
  refine FS.frame (good_blotterComplete w m' oid) (fun h => ?_)
  rcases market!_modify w mid m' (fun m => { m with live := m.live.erase oid }) with e | ⟨_, e⟩
  · rw [e]; exact ⟨fun _ _ => ⟨rfl, rfl⟩, rfl, fun x _ h1 h2 => absurd h2 h1⟩
  · rw [e]
    refine ⟨fun _ _ => ⟨rfl, rfl⟩, rfl, ?_⟩
    intro x hb h1 h2
    by_cases ex : x = oid
    · rw [ex]; rw [ex] at hb; exact hec h hb
    · exact absurd ((List.mem_erase_of_ne ex).mpr h2) h1

theorem fs_blotterAdd (mid : Nat) (w : World) (m' oid : Nat) (ho : oid ∈ ids w) (hn : oid ∉ (w.market! m').blotter)
    (hsent : Sent (w.order! oid)) : FS mid w (w.blotterAdd m' oid) := by
  rw [blotterAdd_eq]
  -- the note on the order is bookkeeping: what matters is the market's part
  refine FS.trans ?_ ((eff_modifyOrder _ oid _).calm.fs mid)
  have g := good_blotterAppend w m' oid ho hn
  unfold blotterAppend at g ⊢
  rcases market!_modify w mid m' (fun m => { m with active := true, blotter := m.blotter ++ [oid], live := m.live ++ [oid] }) with e | ⟨_, e⟩
  · -- another market (or none of that id)
    exact FS.same g (congrArg Market.blotter e) (congrArg Market.live e) fun _ _ _ => ⟨rfl, rfl⟩
  · refine ⟨g.1, fun h => ⟨⟨g.2 h.inv, ?_, ?_⟩, ?_, fun _ _ he => he⟩⟩
    · intro x hx; rw [e] at hx
      rcases List.mem_append.mp hx with hx | hx
      · exact h.sent x hx
      · rw [List.mem_singleton.mp hx]; exact hsent
    · intro x hx hl; rw [e] at hx hl
      rcases List.mem_append.mp hx with hx | hx
      · exact h.live x hx fun hh => hl (List.mem_append_left _ hh)
      · exact absurd (List.mem_append_right _ hx) hl
    · intro x hx; rw [e]; exact List.mem_append_left _ hx

/-! ### new orders and markets -/

theorem fs_appendOrder (mid : Nat) {w w' : World} {o : Order} (a : Appended w o w') : FS mid w w' :=
  FS.same (good_appendOrder a) (by rw [market!_congr w w' a.markets mid]) (by rw [market!_congr w w' a.markets mid]) fun h oid hb => by
    rw [a.order! (h.inv.blotter_hasOrder mid oid hb)]; exact ⟨rfl, rfl⟩

theorem fs_appendMarket (mid : Nat) (w : World) (m : Market) (hnew : (w.market? m.id).isNone = true) (hb : m.blotter = []) (hl : m.live = []) :
    FS mid w ({ w with markets := w.markets ++ [m] } : World) :=
  FS.same (good_appendMarket w m hnew hb hl) (market!_appendNew w m hnew hb hl mid).1 (market!_appendNew w m hnew hb hl mid).2
    fun _ _ _ => ⟨rfl, rfl⟩

/-! ### requests -/

theorem fsRequests (M : Nat) : Requests (FS M) HasOrder :=
  ⟨fun h => h.fs M, FS.trans, fun k h => k.hasOrder _ h, fun _ h => fs_orderViolation M _ _ _ h⟩

/-- `hne` is the guard of fix f0672de: without it an EXECUTION_COMPLETE order of M's blotter could go PENDING again; any other
    order of M's blotter is in its live list -/
theorem fs_filePlacement (M : Nat) (w : World) (t : Txn) (oid : Nat) (v : Option Int) (ex : Bool) (ho : HasOrder w oid)
    (hn : oid ∉ (w.market! t.market).blotter) (hne : (w.order! oid).status ≠ some .executionComplete) : FS M w (w.filePlacement t oid v ex) :=
  Rules.filePlacement (fun h => h.fs M) FS.trans t oid v ex
    (A := fun w => HasOrder w oid ∧ oid ∉ (w.market! t.market).blotter ∧ ¬ EC (w.order! oid))
    (P := fun w => oid ∈ ids w ∧ oid ∉ (w.market! t.market).blotter ∧ Sent (w.order! oid))
    (fun k h => ⟨(k.hasOrder oid).mpr h.1, by rw [(k.market _).1]; exact h.2.1, by unfold EC; rw [k.status]; exact h.2.2⟩)
    (fun {w} h => by
      have k := fs_orderUpdateStatus M w oid .pending h.1 fun hBI hb =>
        ⟨Or.inl rfl, fun hl => absurd (hBI.live oid hb hl) h.2.2, fun he => absurd he h.2.2⟩
      refine ⟨k, (hasOrder_iff _ oid).mp (k.hasOrder oid h.1),
        by rw [market!_congr w (w.orderPlacing oid) (eff_orderUpdateStatus w oid .pending).markets]; exact h.2.1, ?_⟩
      unfold orderPlacing
      rw [orderUpdateStatus_self w oid .pending h.1]
      exact sent_stamped _ _ (Or.inl rfl))
    (fun {w} h => fs_blotterAdd M w t.market oid h.1 h.2.1 h.2.2) w ⟨ho, hn, hne⟩

theorem fs_txnPlace (M : Nat) (w : World) (t : Txn) (oid : Nat) (v : Option Int) (ex force : Bool) (ho : HasOrder w oid) :
    FS M w (w.txnPlace t oid v ex force).1 :=
  (fsRequests M).txnPlace w t oid v ex force
    (fun h hn hne => fs_filePlacement M _ t oid v ex h hn hne) ho

/-! ### packaging -/

theorem fs_txnExecute (M : Nat) (w : World) (t : Txn) (ht : TOk w t) : FS M w (w.txnExecute t).1 :=
  FS.of_good (good_txnExecute w t ht) (eff_txnExecute w t).orders (eff_txnExecute w t).markets

/-! ### handlers, middleware, completion loop, closure: `FS M` as an instance of the rules -/

theorem ec_after_complete (w : World) (oid : Nat) (ho : HasOrder w oid) : EC ((w.orderExecutionComplete oid).order! oid) := by
  unfold EC; rw [executionComplete_self w oid ho]; rfl

theorem fsHandlers (M : Nat) : Handlers (FS M) (BI M) (fun _ w a => HasOrder w a) (fun _ w a => HasOrder w a) (fun _ w a => HasOrder w a) where
  calm := fun h => h.fs M
  trans := FS.trans
  hcalm := fun k h => (k.hasOrder _).mpr h
  exe := fun h => fs_orderExecutable M _ _ h
  ec := fun h => fs_orderExecutionComplete M _ _ h
  gmono := fun k h => (k.2 h).1
  hmono := fun k h => k.hasOrder _ h
  ncalm := fun k h => (k.hasOrder _).mpr h
  create := fun a _ _ _ => ⟨fs_appendOrder M a, a.has⟩
  ecN := fun h => fs_orderExecutionComplete M _ _ h
  placeN := fun {_ w r} _ h =>
    have k := fs_txnPlace M w _ r none false false h
    ⟨k, k.hasOrder r h⟩
  exeP := fun h => fs_orderExecutable M _ _ h

theorem fsBlotters (M : Nat) : Blotters (FS M) (BI M) HasOrder where
  calm := fun h => h.fs M
  trans := FS.trans
  gmono := fun k h => (k.2 h).1
  bmono := fun k h => k.hasOrder _ h
  blot := fun h mid => h.inv.blotter_hasOrder mid
  liveB := fun h mid oid ho => h.inv.blotter_hasOrder mid oid (h.inv.live_sub mid oid ho)
  bkey := hasOrder_key
  setOrder := fun w a hb _ hf => fs_setOrder M w a _ hb (hf _)
  ecB := fun h => fs_orderExecutionComplete M _ _ h
  unlive := fun {w a} _ mid hc => fs_blotterComplete M w mid a (fun h hb => (h.sent a hb).ec_of_complete hc)
  ecUnlive := fun {w a} hb mid => (fs_orderExecutionComplete M w a hb).trans (fs_blotterComplete M _ mid a (fun _ _ => ec_after_complete w a hb))

theorem fs_checkPendingPackages (M : Nat) (w : World) (mid : Nat) : FS M w (w.checkPendingPackages mid) :=
  FS.of (eff_checkPendingPackages w mid).keeps fun h =>
    (fsHandlers M).checkPendingPackages (fun _ _ => FS.of_eq rfl rfl fun _ hp => (List.mem_filter.mp hp).1) w mid h
      fun p hp _ oid ho => (hasOrder_iff w oid).mpr (h.inv.queue p hp oid ho)

theorem fs_simulatedMiddleware (M : Nat) (w : World) (mid : Nat) : FS M w (w.simulatedMiddleware mid) :=
  FS.of (eff_simulatedMiddleware w mid).keeps fun h => (fsBlotters M).simulatedMiddleware w mid h

theorem fs_processSimulatedOrders (M : Nat) (w : World) (mid : Nat) : FS M w (w.processSimulatedOrders mid) :=
  FS.of (eff_processSimulatedOrders w mid).keeps fun h => (fsBlotters M).processSimulatedOrders w mid h

theorem fs_processCloseMarket (M : Nat) (w : World) (mid : Nat) (book : Book) : FS M w (w.processCloseMarket mid book) :=
  FS.of (eff_processCloseMarket w mid book).keeps fun h => (fsBlotters M).processCloseMarket w mid book h

/-! ### scripted strategy actions and a whole update (of any market `mid`), seen from market M -/

theorem fsScripts (M : Nat) : Scripts (FS M) (BI M) where
  refl := FS.refl M
  trans := FS.trans
  inv := (·.inv)
  gmono := fun k h => (k.2 h).1
  keeps := (·.1)
  exec := fs_txnExecute M
  create := fs_appendOrder M
  place := fun w t a v force ha => fs_txnPlace M w t a v true force ((hasOrder_iff w a).mpr ha)
  request := fun w t a force k op file hop ha =>
    (fsRequests M).txnRequest w t a force k op file (fun hb h => fs_accepts M hb (hop _ _ h)) ((hasOrder_iff w a).mpr ha)
  of_eq := FS.of_eq

theorem fs_doActions (M : Nat) (w : World) (mid : Nat) (as : List Action) : FS M w (w.doActions mid as).1 :=
  FS.of (eff_doActions w mid as).keeps ((fsScripts M).doActions w mid as)

theorem fs_processMarketBook (M : Nat) (w : World) (mid : Nat) (book : Book) (script : Nat → List Action) :
    FS M w (w.processMarketBook mid book script).1 :=
  Rules.processMarketBook (fun h => h.fs M) FS.trans mid book script
    (fun w => fs_checkPendingPackages M w mid) (fun w => fs_processCloseMarket M w mid book)
    (fun w hn => fs_appendMarket M w _ hn rfl rfl) (fun w => fs_simulatedMiddleware M w mid)
    (fun w => fs_processSimulatedOrders M w mid) (fun w as _ => fs_doActions M w mid as) w

theorem fs_runUpdates (M : Nat) (w : World) (us : List (Nat × Book × (Nat → List Action))) : FS M w (runUpdates w us) :=
  foldl_steps (FS.refl M) FS.trans (fun w => w) _ (fun w (u : Nat × Book × (Nat → List Action)) => fs_processMarketBook M w u.1 u.2.1 u.2.2) us w

theorem bi_empty (M : Nat) (cfg : Config) (cl : List Client) (ss : List Strategy) : BI M { cfg := cfg, clients := cl, strategies := ss } :=
  ⟨inv_empty cfg cl ss, nofun, nofun⟩

theorem bi_reachable (M : Nat) (cfg : Config) (cl : List Client) (ss : List Strategy) (us : List (Nat × Book × (Nat → List Action))) :
    BI M (runUpdates { cfg := cfg, clients := cl, strategies := ss } us) :=
  ((fs_runUpdates M _ us).2 (bi_empty M cfg cl ss)).1

end Flumine.Fin
