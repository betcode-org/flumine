/- Lemmas/Inv.lean — a well-formedness invariant of the world that every function of an update
   preserves: order ids are creation indices, every id in a blotter names an order of the table,
   no blotter lists an order twice, the live list is part of the blotter, market ids are unique, and
   the queued packages list existing orders only (what C07 and C12 read of it). -/
import Flumine.Lemmas.Rules
import Flumine.Lemmas.Packs
import Flumine.Lemmas.Pending
namespace Flumine.Inv
open Flumine.World Flumine.OL Flumine.Ids
open Flumine.Fl (txnIds batchIds txnIds_place)
open Flumine.Rules (Handlers Blotters Requests Accepts)

structure Inv (w : World) : Prop where
  range : ids w = List.range w.orders.length
  blot : ∀ m ∈ w.markets, ∀ oid ∈ m.blotter, oid ∈ ids w
  nodup : ∀ m ∈ w.markets, m.blotter.Nodup
  live : ∀ m ∈ w.markets, ∀ oid ∈ m.live, oid ∈ m.blotter
  mnodup : (w.markets.map (·.id)).Nodup
  queue : ∀ p ∈ w.queue, ∀ oid ∈ p.orders, oid ∈ ids w

theorem inv_empty (cfg : Config) (cl : List Client) (ss : List Strategy) : Inv { cfg := cfg, clients := cl, strategies := ss } :=
  ⟨by simp [ids], by intro m h; simp at h, by intro m h; simp at h, by intro m h; simp at h, by simp, by intro p h; simp at h⟩

def Good (w w' : World) : Prop := Keeps w w' ∧ (Inv w → Inv w')

theorem Good.refl (w : World) : Good w w := ⟨Keeps.refl w, id⟩

theorem Good.trans {a b c : World} (h1 : Good a b) (h2 : Good b c) : Good a c :=
  ⟨h1.1.trans h2.1, fun h => h2.2 (h1.2 h)⟩

/-- (`Inv` reads the ids of the order table, the markets and the queue, and nothing else) -/
theorem Good.of_markets {w w' : World} (hids : ids w' = ids w) (hq : ∀ p ∈ w'.queue, p ∈ w.queue)
    (hm : Inv w → (∀ m ∈ w'.markets, (∀ x ∈ m.blotter, x ∈ ids w) ∧ m.blotter.Nodup ∧ ∀ x ∈ m.live, x ∈ m.blotter) ∧
      (w'.markets.map (·.id)).Nodup) : Good w w' := by
  have hlen : w'.orders.length = w.orders.length := by simpa [ids] using congrArg List.length hids
  refine ⟨⟨[], by rw [hids]; simp⟩, fun h => ?_⟩
  obtain ⟨hmem, hnd⟩ := hm h
  exact ⟨by rw [hids, hlen]; exact h.range, fun m hm => hids ▸ (hmem m hm).1, fun m hm => (hmem m hm).2.1, fun m hm => (hmem m hm).2.2, hnd,
    fun p hp oid ho => hids ▸ h.queue p (hq p hp) oid ho⟩

theorem Good.inplace {w w' : World} (hids : ids w' = ids w) (hm : w'.markets = w.markets) (hq : ∀ p ∈ w'.queue, p ∈ w.queue) : Good w w' :=
  Good.of_markets hids hq fun h => hm ▸ ⟨fun m hmm => ⟨h.blot m hmm, h.nodup m hmm, h.live m hmm⟩, h.mnodup⟩

theorem Good.of_eq {w w' : World} (ho : w'.orders = w.orders) (hm : w'.markets = w.markets) (hq : ∀ p ∈ w'.queue, p ∈ w.queue) : Good w w' :=
  Good.inplace (by unfold ids; rw [ho]) hm hq

theorem sub_of_eq {w w' : World} (h : w'.queue = w.queue) : ∀ p ∈ w'.queue, p ∈ w.queue := by rw [h]; exact fun _ hp => hp

theorem _root_.Flumine.Calm.good {w w' : World} (h : Calm w w') : Good w w' :=
  Good.of_markets h.ids (sub_of_eq h.qu) fun hI => ⟨fun m' hm' => by
      obtain ⟨m, hmm, eb, el⟩ := h.mem hm'
      rw [eb, el]; exact ⟨hI.blot m hmm, hI.nodup m hmm, hI.live m hmm⟩,
    h.mids ▸ hI.mnodup⟩

/-! ### orders -/

theorem good_lifecycle {w w' : World} (h : Eff lifecycle w w') : Good w w' :=
  Good.inplace h.ids h.markets (sub_of_eq h.queue)

theorem good_setOrder (w : World) (o : Order) : Good w (w.setOrder o) := good_lifecycle (eff_setOrder w o).le
theorem good_orderUpdateStatus (w : World) (oid : Nat) (s : Status) : Good w (w.orderUpdateStatus oid s) :=
  good_lifecycle (eff_orderUpdateStatus w oid s)
theorem good_orderExecutionComplete (w : World) (oid : Nat) : Good w (w.orderExecutionComplete oid) :=
  good_lifecycle (eff_orderExecutionComplete w oid)

/-! ### markets -/

theorem market!_of_mem (w : World) (m : Market) (hm : m ∈ w.markets) (hn : (w.markets.map (·.id)).Nodup) : w.market! m.id = m := by
  unfold market! market?
  rcases find?_key (·.id) w.markets m.id with ⟨x, hx, e, hf⟩ | ⟨hb, _⟩
  · rw [hf, eq_of_key_eq (·.id) hn hx hm e]; rfl
  · exact absurd (List.mem_map_of_mem hm) hb

theorem good_modifyMarket (w : World) (mid : Nat) (f : Market → Market) (hid : ∀ m, (f m).id = m.id)
    (hf : Inv w → ∀ m ∈ w.markets, m.id = mid →
      (∀ x ∈ (f m).blotter, x ∈ ids w) ∧ (f m).blotter.Nodup ∧ ∀ x ∈ (f m).live, x ∈ (f m).blotter) :
    Good w (w.modifyMarket mid f) :=
  Good.of_markets rfl (fun _ hp => hp) fun h => ⟨fun m' hm' => by
      obtain ⟨m, hm, rfl⟩ := List.mem_map.mp hm'
      split
      · rename_i e; exact hf h m hm e
      · exact ⟨h.blot m hm, h.nodup m hm, h.live m hm⟩,
    by
      have hids : (w.modifyMarket mid f).markets.map (·.id) = w.markets.map (·.id) :=
        map_map_of_keeps _ _ _ fun x => by split; exact hid x; rfl
      exact hids ▸ h.mnodup⟩

theorem good_blotterComplete (w : World) (mid oid : Nat) : Good w (w.blotterComplete mid oid) :=
  good_modifyMarket w mid _ (fun _ => rfl) fun h m hm _ =>
    ⟨h.blot m hm, h.nodup m hm, fun x hx => h.live m hm x (List.mem_of_mem_erase hx)⟩

theorem good_blotterAppend (w : World) (mid oid : Nat) (ho : oid ∈ ids w) (hn : oid ∉ (w.market! mid).blotter) :
    Good w (w.blotterAppend mid oid) :=
  good_modifyMarket w mid _ (fun _ => rfl) fun h m hm e => by
    have hnm : oid ∉ m.blotter := by rw [← market!_of_mem w m hm h.mnodup, e]; exact hn
    refine ⟨fun x hx => ?_, nodup_snoc (h.nodup m hm) hnm, fun x hx => ?_⟩
    · rcases List.mem_append.mp hx with hx | hx
      · exact h.blot m hm x hx
      · rw [List.mem_singleton.mp hx]; exact ho
    · exact (List.mem_append.mp hx).elim (fun hx => List.mem_append_left _ (h.live m hm x hx)) (List.mem_append_right _)

theorem good_blotterAdd (w : World) (mid oid : Nat) (ho : oid ∈ ids w) (hn : oid ∉ (w.market! mid).blotter) :
    Good w (w.blotterAdd mid oid) :=
  blotterAdd_eq w mid oid ▸ (good_blotterAppend w mid oid ho hn).trans (Calm.good (eff_modifyOrder _ oid _).calm)

theorem good_appendOrder {w w' : World} {o : Order} (a : Appended w o w') : Good w w' := by
  refine ⟨a.keeps, fun h => ⟨?_, ?_, by rw [a.markets]; exact h.nodup, by rw [a.markets]; exact h.live, by rw [a.markets]; exact h.mnodup, ?_⟩⟩
  · rw [a.ids, a.orders, List.length_append, List.length_singleton, List.range_succ, h.range]
  · rw [a.markets]; exact fun m hmm oid hx => a.keeps.mem oid (h.blot m hmm oid hx)
  · rw [a.queue]; exact fun p hp oid hx => a.keeps.mem oid (h.queue p hp oid hx)

theorem good_appendMarket (w : World) (m : Market) (hnew : (w.market? m.id).isNone = true) (hb : m.blotter = []) (hl : m.live = []) :
    Good w ({ w with markets := w.markets ++ [m] } : World) :=
  Good.of_markets rfl (fun _ hp => hp) fun h => ⟨fun m' hm' => by
      rcases List.mem_append.mp hm' with hm' | hm'
      · exact ⟨h.blot m' hm', h.nodup m' hm', h.live m' hm'⟩
      · rw [List.mem_singleton.mp hm', hb, hl]; exact ⟨nofun, List.nodup_nil, nofun⟩,
    by
      show ((w.markets ++ [m]).map (·.id)).Nodup
      rw [List.map_append]
      refine nodup_snoc h.mnodup fun hin => ?_
      have := (Mids.market?_isSome_iff w m.id).mpr hin
      rw [Option.isNone_iff_eq_none.mp hnew] at this; cases this⟩

/-- what `Inv` says of the markets of the list holds of a lookup: the default market has no orders -/
theorem Inv.of_market! {w : World} (h : Inv w) (mid : Nat) :
    (∀ oid ∈ (w.market! mid).blotter, oid ∈ ids w) ∧ (w.market! mid).blotter.Nodup ∧ ∀ oid ∈ (w.market! mid).live, oid ∈ (w.market! mid).blotter := by
  rcases market!_mem_or_default w mid with hm | hm
  · exact ⟨h.blot _ hm, h.nodup _ hm, h.live _ hm⟩
  · rw [hm]; exact ⟨nofun, List.nodup_nil, nofun⟩

theorem Inv.blotter_hasOrder {w : World} (h : Inv w) (mid : Nat) : ∀ oid ∈ (w.market! mid).blotter, HasOrder w oid :=
  fun oid ho => (hasOrder_iff w oid).mpr ((h.of_market! mid).1 oid ho)

theorem Inv.blotter_nodup {w : World} (h : Inv w) (mid : Nat) : (w.market! mid).blotter.Nodup := (h.of_market! mid).2.1

theorem Inv.live_sub {w : World} (h : Inv w) (mid : Nat) : ∀ oid ∈ (w.market! mid).live, oid ∈ (w.market! mid).blotter := (h.of_market! mid).2.2

/-! ### the next creation index, a filed placement -/

theorem fresh_index (w0 w1 : World) (hI : Inv w0) (hk : Keeps w0 w1) : ¬ HasOrder w0 w1.orders.length := by
  rw [hasOrder_iff, hI.range, List.mem_range]
  obtain ⟨e, he⟩ := hk
  have : (ids w1).length = (ids w0).length + e.length := by rw [he, List.length_append]
  unfold ids at this
  simp only [List.length_map] at this
  omega

section appended
variable {w w' : World} {o : Order} (a : Appended w o w') (hI : Inv w)
include a hI

theorem _root_.Flumine.OL.Appended.fresh : ¬ HasOrder w o.id := a.id ▸ fresh_index w w hI (Keeps.refl w)

theorem _root_.Flumine.OL.Appended.found : w'.order! o.id = o := a.new (a.fresh hI)

theorem _root_.Flumine.OL.Appended.unfiled (m : Nat) : o.id ∉ (w'.market! m).blotter :=
  market!_congr w w' a.markets m ▸ fun hc => a.fresh hI (hI.blotter_hasOrder m _ hc)

end appended

/-- every order the open transaction of a `with market.transaction()` block, if any, has pending (accepted, not yet
    packaged) is in the order table -/
def BOk (w : World) (b : Option Txn) : Prop := ∀ x ∈ batchIds b, x ∈ ids w

abbrev TOk (w : World) (t : Txn) : Prop := BOk w (some t)

theorem BOk.keeps {w w' : World} {b : Option Txn} (h : BOk w b) (k : Keeps w w') : BOk w' b := fun x hx => Keeps.mem k x (h x hx)

theorem BOk.none (w : World) : BOk w none := fun _ hx => nomatch hx

theorem TOk.add {w : World} {t t' : Txn} {a : Nat} (ht : TOk w t) (ho : a ∈ ids w) (hp : (txnIds t').Perm (a :: txnIds t)) : TOk w t' :=
  fun x hx => (List.mem_cons.mp (hp.mem_iff.mp hx)).elim (fun e => e ▸ ho) (ht x)

theorem good_filePlacement (w : World) (t : Txn) (oid : Nat) (v : Option Int) (ex : Bool) (ho : oid ∈ ids w)
    (hn : oid ∉ (w.market! t.market).blotter) : Good w (w.filePlacement t oid v ex) :=
  Rules.filePlacement Calm.good Good.trans t oid v ex
    (A := fun w => oid ∈ ids w ∧ oid ∉ (w.market! t.market).blotter) (P := fun w => oid ∈ ids w ∧ oid ∉ (w.market! t.market).blotter)
    (fun k h => ⟨k.ids ▸ h.1, by rw [(k.market _).1]; exact h.2⟩)
    (fun {w} h => ⟨good_orderUpdateStatus w oid .pending, Keeps.mem (good_orderUpdateStatus w oid .pending).1 oid h.1,
      by rw [market!_congr w (w.orderPlacing oid) (eff_orderUpdateStatus w oid .pending).markets]; exact h.2⟩)
    (fun {w} h => good_blotterAdd w t.market oid h.1 h.2) w ⟨ho, hn⟩

/-! ### requests -/

theorem goodRequests : Requests Good (fun w a => a ∈ ids w) :=
  ⟨Calm.good, Good.trans, fun k h => Keeps.mem k.1 _ h, fun _ _ => good_lifecycle (eff_orderViolation ..)⟩

theorem good_txnPlace (w : World) (t : Txn) (oid : Nat) (v : Option Int) (ex force : Bool) (ho : oid ∈ ids w) : Good w (w.txnPlace t oid v ex force).1 :=
  goodRequests.txnPlace w t oid v ex force (fun h hn _ => good_filePlacement _ t oid v ex h hn) ho

/-! ### handlers, middleware, completion loop, closure: `Good` as an instance of the rules -/

/-- the replacement order of a simulated replace is in the table from its creation on; nothing else has to be known -/
theorem goodHandlers : Handlers Good (fun _ => True) (fun _ _ _ => True) (fun _ w r => r ∈ ids w) (fun _ _ _ => True) where
  calm := Calm.good
  trans := Good.trans
  hcalm := fun _ _ => trivial
  exe := fun _ => good_lifecycle (eff_orderExecutable ..)
  ec := fun _ => good_orderExecutionComplete _ _
  gmono := fun _ _ => trivial
  hmono := fun _ _ => trivial
  ncalm := fun k h => k.ids ▸ h
  create := fun a _ _ _ => ⟨good_appendOrder a, (hasOrder_iff _ _).mp a.has⟩
  ecN := fun _ => good_orderExecutionComplete _ _
  placeN := fun _ h => ⟨good_txnPlace _ _ _ none false false h, trivial⟩
  exeP := fun _ => good_lifecycle (eff_orderExecutable ..)

theorem goodBlotters : Blotters Good (fun _ => True) (fun _ _ => True) where
  calm := Calm.good
  trans := Good.trans
  gmono := fun _ _ => trivial
  bmono := fun _ _ => trivial
  blot := fun _ _ _ _ => trivial
  liveB := fun _ _ _ _ => trivial
  bkey := fun _ => trivial
  setOrder := fun w _ _ _ _ => good_setOrder w _
  ecB := fun _ => good_orderExecutionComplete _ _
  unlive := fun _ _ _ => good_blotterComplete _ _ _
  ecUnlive := fun _ _ => (good_orderExecutionComplete _ _).trans (good_blotterComplete _ _ _)

theorem good_replaceStep (p : Package) (acc : World × Nat) (pr : Nat × Option Rat) : Good acc.1 (replaceStep p acc pr).1 :=
  goodHandlers.replaceStep p acc pr trivial trivial
theorem good_executePackage (w : World) (p : Package) : Good w (w.executePackage p) :=
  goodHandlers.executePackage w p trivial fun _ _ => trivial
theorem good_checkPendingPackages (w : World) (mid : Nat) : Good w (w.checkPendingPackages mid) :=
  goodHandlers.checkPendingPackages (fun _ _ => Good.of_eq rfl rfl fun _ hp => (List.mem_filter.mp hp).1) w mid trivial fun _ _ _ _ _ => trivial

/-! ### packaging -/

theorem good_addPackage (kind : PackKind) (t : Txn) (d bd : Rat) (w : World) (vc : Option Int × List Nat)
    (hv : ∀ oid ∈ vc.2, oid ∈ ids w) : Good w (addPackage kind t d bd w vc) := by
  refine ⟨Keeps.of_eq rfl, fun h => ⟨h.range, h.blot, h.nodup, h.live, h.mnodup, ?_⟩⟩
  intro p hp oid ho
  unfold addPackage at hp
  rcases List.mem_append.mp hp with hp | hp
  · exact h.queue p hp oid ho
  · rw [List.mem_singleton.mp hp] at ho; exact hv oid ho

theorem good_createPackages (w : World) (t : Txn) (pend : List (Nat × Option Int)) (k : PackKind)
    (hp : ∀ x ∈ pend, x.1 ∈ ids w) : Good w (w.createPackages t pend k) :=
  foldl_rel Good.refl Good.trans (fun w => w) _ (fun w vc => ∀ oid ∈ vc.2, oid ∈ ids w) (fun _ k h oid ho => Keeps.mem k.1 _ (h oid ho))
    (fun w vc h => good_addPackage k t _ _ w vc h) _ w fun vc hvc oid ho => hp (oid, vc.1) ((Packs.packs_sound pend k vc hvc).2.2 oid ho)

theorem mem_txnIds_of_pending {t : Txn} {pk : List (Nat × Option Int) × PackKind} {x : Nat × Option Int} (hpk : pk ∈ pendingLists t)
    (hx : x ∈ pk.1) : x.1 ∈ txnIds t := by
  simp only [pendingLists, List.mem_cons, List.not_mem_nil, or_false] at hpk
  refine List.mem_map.mpr ⟨x, ?_, rfl⟩
  rcases hpk with rfl | rfl | rfl | rfl <;> simp [hx]

theorem good_txnExecute (w : World) (t : Txn) (ht : TOk w t) : Good w (w.txnExecute t).1 := by
  rw [txnExecute_fst]
  refine foldl_rel Good.refl Good.trans (fun w => w) (pack t) (fun w pk => ∀ x ∈ pk.1, x.1 ∈ ids w)
    (fun _ k h x hx => Keeps.mem k.1 _ (h x hx)) (fun w pk h => ?_) _ w fun pk hpk x hx => ht _ (mem_txnIds_of_pending hpk hx)
  unfold pack; split
  · exact Good.refl w
  · exact good_createPackages w t pk.1 pk.2 h

theorem tok_txnExecute (w : World) (t : Txn) : TOk (w.txnExecute t).1 (w.txnExecute t).2 := fun _ hx => nomatch hx

/-! ### what a request leaves pending in the transaction -/

theorem tok_txnRequest (w : World) (t : Txn) (a : Nat) (force : Bool) (k : PackKind) (op : World → Except ReqErr World) (file : Txn → Txn)
    (hp : (txnIds (file t)).Perm (a :: txnIds t)) (ht : TOk w t) (ho : a ∈ ids w) : TOk w (w.txnRequest t a force k op file).2.1 :=
  txnRequest_cases w t a force k op file (fun _ t' => TOk w t') ht fun _ _ => ⟨ht, fun _ _ => ht.add ho hp⟩

theorem tok_txnPlace (w : World) (t : Txn) (a : Nat) (v : Option Int) (ex force : Bool) (ht : TOk w t) (ho : a ∈ ids w) :
    TOk w (w.txnPlace t a v ex force).2.1 :=
  txnPlace_cases w t a v ex force (fun _ t' => TOk w t') ht fun _ _ => by
    cases ex
    · exact ht
    · exact ht.add ho (txnIds_place t (a, v) true)

/-! ### scripted strategy actions and the whole update -/

theorem target_mem (w : World) (tg : Target) (hI : Inv w) (hm : tg.missing w = false) : tg.resolve w ∈ ids w := by
  rw [hI.range, List.mem_range]
  cases tg with
  | byId oid =>
    simp only [Target.missing, decide_eq_false_iff_not, Nat.not_le] at hm
    exact hm
  | lastOfTrade tid =>
    simp only [Target.missing, Bool.or_eq_false_iff, decide_eq_false_iff_not, Nat.not_le] at hm
    exact hm.2

/-- What a layer says of the scripted actions, for a relation `R` that holds whatever requests are made (an invariant that holds
    only as long as none is foreign goes through `Rules.Acted`).  `R` keeps the order ids, the layer's invariant `G` gives
    well-formedness, and `exec`, `create`, `place`, `request` are what `R` makes of packaging, a new order and a request about an
    existing order; `of_eq`: `R` reads nothing but orders, markets and queue (so not the count of a foreign request). -/
structure Scripts (R : World → World → Prop) (G : World → Prop) : Prop where
  refl : ∀ w, R w w
  trans : ∀ {a b c}, R a b → R b c → R a c
  inv : ∀ {w}, G w → Inv w
  gmono : ∀ {w w'}, R w w' → G w → G w'
  keeps : ∀ {w w'}, R w w' → Keeps w w'
  exec : ∀ w t, TOk w t → R w (w.txnExecute t).1
  create : ∀ {w o w'}, Appended w o w' → R w w'
  place : ∀ w t a v force, a ∈ ids w → R w (w.txnPlace t a v true force).1
  request : ∀ w t a force k op file, (∀ v v', op v = .ok v' → Accepts v v' a) → a ∈ ids w → R w (w.txnRequest t a force k op file).1
  of_eq : ∀ {w w'}, w'.orders = w.orders → w'.markets = w.markets → (∀ p ∈ w'.queue, p ∈ w.queue) → R w w'

namespace Scripts
variable {R : World → World → Prop} {G : World → Prop}

/-- a scripted step, on (world, open transaction): carried along, the open transaction lists existing orders only (`BOk`, what
    packaging asks for) -/
def Step (R : World → World → Prop) (G : World → Prop) (w : World) (b : Option Txn) (w' : World) (b' : Option Txn) : Prop :=
  G w ∧ BOk w b → R w w' ∧ BOk w' b'

theorem step_refl (L : Scripts R G) (w : World) (b : Option Txn) : Step R G w b w b := fun h => ⟨L.refl w, h.2⟩

theorem step_trans (L : Scripts R G) {w1 w2 w3 : World} {b1 b2 b3 : Option Txn} (h1 : Step R G w1 b1 w2 b2) (h2 : Step R G w2 b2 w3 b3) :
    Step R G w1 b1 w3 b3 := fun h =>
  have k1 := h1 h
  have k2 := h2 ⟨L.gmono k1.1 h.1, k1.2⟩
  ⟨L.trans k1.1 k2.1, k2.2⟩

theorem txnExit (L : Scripts R G) (w : World) (t : Txn) : Step R G w (some t) (w.txnExit t) none :=
  fun h => ⟨Rules.txnExit L.refl w t (L.exec w t h.2), BOk.none _⟩

theorem doActionCore (L : Scripts R G) (w : World) (mid : Nat) (batch : Option Txn) (a : Action) :
    Step R G w batch (w.doActionCore mid batch a).1 (w.doActionCore mid batch a).2.1 := by
  -- a request through the open transaction t, about an existing order: a step of R, and the order joins t
  have req : ∀ (t : Txn) (tg : Target) (r : World × Txn × ReqResult), tg.missing w = false →
      (tg.resolve w ∈ ids w → R w r.1) → (TOk w t → tg.resolve w ∈ ids w → TOk w r.2.1) → Step R G w (some t) r.1 (some r.2.1) :=
    fun t tg r hm hg hs h =>
      have ho := target_mem w tg (L.inv h.1) hm
      ⟨hg ho, (hs h.2 ho).keeps (L.keeps (hg ho))⟩
  refine Rules.doActionCore (Step R G) L.step_refl L.step_trans w mid batch a ?_ L.txnExit ?_ ?_ ?_ ?_
  · exact fun w c _ => ⟨L.refl w, fun _ hx => nomatch hx⟩
  · exact fun t h => ⟨L.exec w t h.2, tok_txnExecute w t⟩
  · exact fun r w' a h => ⟨L.create a, h.2.keeps a.keeps⟩
  · exact fun t tg v force _ hm _ => req t tg _ hm (L.place w t _ v force) (tok_txnPlace w t _ v true force)
  · exact fun t tg force k op file _ hm _ hop hp _ _ => req t tg _ hm (L.request w t _ force k op file hop) (tok_txnRequest w t _ force k op file hp)

theorem doActions (L : Scripts R G) (w : World) (mid : Nat) (as : List Action) (hG : G w) : R w (w.doActions mid as).1 :=
  (Rules.doActions (Step R G) L.step_refl L.step_trans mid
    (fun w b a =>
      have e := eff_noteForeign w mid a
      L.step_trans (fun h => ⟨L.of_eq e.orders e.markets (sub_of_eq e.queue), h.2.keeps e.keeps⟩) (L.doActionCore _ mid b a))
    L.txnExit w as ⟨hG, BOk.none w⟩).1

end Scripts

theorem goodScripts : Scripts Good Inv where
  refl := Good.refl
  trans := Good.trans
  inv := id
  gmono := fun k => k.2
  keeps := fun k => k.1
  exec := good_txnExecute
  create := good_appendOrder
  place := fun w t a v force => good_txnPlace w t a v true force
  request := fun w t a force k op file hop => goodRequests.txnRequest w t a force k op file fun _ h => good_lifecycle (hop _ _ h).eff
  of_eq := Good.of_eq

theorem good_doActions (w : World) (mid : Nat) (as : List Action) : Good w (w.doActions mid as).1 :=
  ⟨(eff_doActions w mid as).keeps, fun hI => (goodScripts.doActions w mid as hI).2 hI⟩

theorem good_processMarketBook (w : World) (mid : Nat) (book : Book) (script : Nat → List Action) :
    Good w (w.processMarketBook mid book script).1 :=
  Rules.processMarketBook Calm.good Good.trans mid book script
    (fun w => good_checkPendingPackages w mid) (fun w => goodBlotters.processCloseMarket w mid book trivial)
    (fun w hn => good_appendMarket w _ hn rfl rfl) (fun w => goodBlotters.simulatedMiddleware w mid trivial)
    (fun w => goodBlotters.processSimulatedOrders w mid trivial) (fun w as _ => good_doActions w mid as) w

theorem good_runUpdates (w : World) (us : List (Nat × Book × (Nat → List Action))) : Good w (runUpdates w us) :=
  foldl_steps Good.refl Good.trans (fun w => w) _ (fun w (u : Nat × Book × (Nat → List Action)) => good_processMarketBook w u.1 u.2.1 u.2.2) us w

/-- every world reachable from an empty framework (any configuration, clients, strategies) by any
    sequence of updates with any scripted strategy behaviour is well-formed -/
theorem inv_reachable (cfg : Config) (cl : List Client) (ss : List Strategy) (us : List (Nat × Book × (Nat → List Action))) :
    Inv (runUpdates { cfg := cfg, clients := cl, strategies := ss } us) :=
  (good_runUpdates _ us).2 (inv_empty cfg cl ss)

end Flumine.Inv
