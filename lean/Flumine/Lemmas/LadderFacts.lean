/- Lemmas/LadderFacts.lean — the published ladder (specification literal), the finite facts about the
   regenerated ladder that the kernel checks by evaluation, and the regenerated cutoff table as an
   instance of the well-formed tables of `LadderGen`. -/
import Flumine.Lemmas.LadderGen
namespace Flumine.C17

/-- Betfair's published price increments (1.01-2 by 0.01, 2-3 by 0.02, 3-4 by 0.05, 4-6 by 0.1,
    6-10 by 0.2, 10-20 by 0.5, 20-30 by 1, 30-50 by 2, 50-100 by 5, 100-1000 by 10), written out
    in hundredths: 350 ticks.  This literal is the specification; it is not regenerated. -/
def publishedHundredths : List Int := [101, 102, 103, 104, 105, 106, 107, 108, 109, 110, 111, 112, 113, 114, 115, 116, 117, 118, 119, 120, 121, 122, 123, 124, 125, 126, 127, 128, 129, 130, 131, 132, 133, 134, 135, 136, 137, 138, 139, 140, 141, 142, 143, 144, 145, 146, 147, 148, 149, 150, 151, 152, 153, 154, 155, 156, 157, 158, 159, 160, 161, 162, 163, 164, 165, 166, 167, 168, 169, 170, 171, 172, 173, 174, 175, 176, 177, 178, 179, 180, 181, 182, 183, 184, 185, 186, 187, 188, 189, 190, 191, 192, 193, 194, 195, 196, 197, 198, 199, 200, 202, 204, 206, 208, 210, 212, 214, 216, 218, 220, 222, 224, 226, 228, 230, 232, 234, 236, 238, 240, 242, 244, 246, 248, 250, 252, 254, 256, 258, 260, 262, 264, 266, 268, 270, 272, 274, 276, 278, 280, 282, 284, 286, 288, 290, 292, 294, 296, 298, 300, 305, 310, 315, 320, 325, 330, 335, 340, 345, 350, 355, 360, 365, 370, 375, 380, 385, 390, 395, 400, 410, 420, 430, 440, 450, 460, 470, 480, 490, 500, 510, 520, 530, 540, 550, 560, 570, 580, 590, 600, 620, 640, 660, 680, 700, 720, 740, 760, 780, 800, 820, 840, 860, 880, 900, 920, 940, 960, 980, 1000, 1050, 1100, 1150, 1200, 1250, 1300, 1350, 1400, 1450, 1500, 1550, 1600, 1650, 1700, 1750, 1800, 1850, 1900, 1950, 2000, 2100, 2200, 2300, 2400, 2500, 2600, 2700, 2800, 2900, 3000, 3200, 3400, 3600, 3800, 4000, 4200, 4400, 4600, 4800, 5000, 5500, 6000, 6500, 7000, 7500, 8000, 8500, 9000, 9500, 10000, 11000, 12000, 13000, 14000, 15000, 16000, 17000, 18000, 19000, 20000, 21000, 22000, 23000, 24000, 25000, 26000, 27000, 28000, 29000, 30000, 31000, 32000, 33000, 34000, 35000, 36000, 37000, 38000, 39000, 40000, 41000, 42000, 43000, 44000, 45000, 46000, 47000, 48000, 49000, 50000, 51000, 52000, 53000, 54000, 55000, 56000, 57000, 58000, 59000, 60000, 61000, 62000, 63000, 64000, 65000, 66000, 67000, 68000, 69000, 70000, 71000, 72000, 73000, 74000, 75000, 76000, 77000, 78000, 79000, 80000, 81000, 82000, 83000, 84000, 85000, 86000, 87000, 88000, 89000, 90000, 91000, 92000, 93000, 94000, 95000, 96000, 97000, 98000, 99000, 100000]

def published : List Rat := publishedHundredths.map (fun (h : Int) => (h : Rat) / 100)

example : publishedHundredths.length = 350 := by decide +kernel

/-- C17.1 the ladder built by `make_prices` from the source's cutoffs is the published ladder -/
theorem ladder_eq_published : prices = published := by decide +kernel

/-- the materialised runtime list `PRICES` read by the extractor is the same list -/
theorem runtime_ladder_eq_published : Gen.runtimePrices = publishedHundredths := rfl

theorem runtime_floats_match : Gen.pricesFloatMatchesPrices = true := rfl

theorem cutoffs_ok : rowsOk Gen.minPrice Gen.cutoffs = true := by decide +kernel

theorem prices_strictly_increasing : prices.Pairwise (· < ·) :=
  ladder_sorted Gen.cutoffs Gen.minPrice cutoffs_ok

theorem prices_length : prices.length = 350 := by rw [ladder_eq_published]; decide +kernel
theorem prices_first_last : prices[0]? = some (101 / 100) ∧ prices[349]? = some 1000 := by rw [ladder_eq_published]; decide +kernel

end Flumine.C17
