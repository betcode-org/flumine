/- Lemmas/Shape.lean — the long functions of the world model written as compositions of named steps, each with the
   equation that says so.  The model keeps the shape of the Python (one function per method, locals as `let`s, counters
   threaded through loops); proofs about it want the steps by name and the loops over worlds. -/
import Flumine.SimLoop
import Flumine.Lemmas.ListAux
import Flumine.Lemmas.OrderLemmas
namespace Flumine
open World

/-- The loops of the model thread a counter or a list beside the world.  Where the world part of the body does not
    look at it, the world part of the loop is a loop over worlds. -/
theorem foldl_fst {σ β α} (f : σ × β → α → σ × β) (g : σ → α → σ) (h : ∀ acc a, (f acc a).1 = g acc.1 a)
    (l : List α) (acc : σ × β) : (l.foldl f acc).1 = l.foldl g acc.1 := by
  induction l generalizing acc with
  | nil => rfl
  | cons a as ih => rw [List.foldl_cons, ih, h, List.foldl_cons]

/-- A loop carries any reflexive transitive relation on the worlds it passes through.  The state `σ` holds a world
    (`wof` is `id`, or `Prod.fst` where something is threaded beside it); `φ` is what has to be known of a loop
    element for its step to be in `R` (that its order exists, say) and is kept along `R`. -/
theorem foldl_rel {τ σ α} {R : τ → τ → Prop} (refl : ∀ w, R w w) (trans : ∀ {a b c}, R a b → R b c → R a c)
    (wof : σ → τ) (f : σ → α → σ) (φ : τ → α → Prop) (hφ : ∀ {w w'} a, R w w' → φ w a → φ w' a)
    (hf : ∀ s a, φ (wof s) a → R (wof s) (wof (f s a))) (l : List α) (s : σ) (hl : ∀ a ∈ l, φ (wof s) a) :
    R (wof s) (wof (l.foldl f s)) := by
  induction l generalizing s with
  | nil => exact refl _
  | cons a as ih =>
    have h1 := hf s a (hl a List.mem_cons_self)
    exact trans h1 (ih _ fun b hb => hφ b h1 (hl b (List.mem_cons_of_mem _ hb)))

theorem foldl_steps {τ σ α} {R : τ → τ → Prop} (refl : ∀ w, R w w) (trans : ∀ {a b c}, R a b → R b c → R a c)
    (wof : σ → τ) (f : σ → α → σ) (hf : ∀ s a, R (wof s) (wof (f s a))) (l : List α) (s : σ) : R (wof s) (wof (l.foldl f s)) :=
  foldl_rel refl trans wof f (fun _ _ => True) (fun _ _ _ => trivial) (fun s a _ => hf s a) l s fun _ _ => trivial

namespace World

/-! ### requests -/

/-- The tests `BetfairOrder.cancel / update / replace` make, in their order: a bet id, the order type, the request's
    own test (`bad`), the status. -/
def reqGuard (typeOk : Prop) [Decidable typeOk] (typeErr : ReqErr) (bad : Prop) [Decidable bad] (badErr : ReqErr) (o : Order) :
    Option ReqErr :=
  if o.betId.isNone then some .noBetId
  else if typeOk then (if bad then some badErr else if o.status ≠ some .executable then some .status else none)
  else some typeErr

theorem reqGuard_none_iff (typeOk : Prop) [Decidable typeOk] (typeErr : ReqErr) (bad : Prop) [Decidable bad] (badErr : ReqErr)
    (o : Order) :
    reqGuard typeOk typeErr bad badErr o = none ↔ o.betId.isSome = true ∧ typeOk ∧ o.status = some .executable ∧ ¬ bad := by
  unfold reqGuard
  cases o.betId <;> by_cases h1 : typeOk <;> by_cases h2 : bad <;> by_cases h3 : o.status = some .executable <;> simp [h1, h2, h3]

/-- the common shape of `orderCancel`, `orderUpdate` and `orderReplace` -/
def orderReq (w : World) (oid : Nat) (g : Order → Option ReqErr) (upd : Order → Order) (s : Status) : Except ReqErr World :=
  match g (w.order! oid) with
  | some e => .error e
  | none => .ok ((w.setOrder (upd (w.order! oid))).orderUpdateStatus oid s)

/-- the chain of tests as the model writes it (errors in an `Except`) and as `reqGuard` lists it -/
theorem reqGuard_shape {α} (c0 c1 c2 c3 : Prop) [Decidable c0] [Decidable c1] [Decidable c2] [Decidable c3]
    (e0 e1 e2 e3 : ReqErr) (x : α) :
    (if c0 then Except.error e0 else if c1 then (if c2 then .error e2 else if c3 then .error e3 else .ok x) else .error e1) =
      match (if c0 then some e0 else if c1 then (if c2 then some e2 else if c3 then some e3 else none) else some e1) with
      | some e => .error e
      | none => .ok x := by
  by_cases h0 : c0
  · rw [if_pos h0, if_pos h0]
  · rw [if_neg h0, if_neg h0]
    by_cases h1 : c1
    · rw [if_pos h1, if_pos h1]
      by_cases h2 : c2
      · rw [if_pos h2, if_pos h2]
      · rw [if_neg h2, if_neg h2]
        by_cases h3 : c3
        · rw [if_pos h3, if_pos h3]
        · rw [if_neg h3, if_neg h3]
    · rw [if_neg h1, if_neg h1]

theorem orderCancel_eq (w : World) (oid : Nat) (red : Option Rat) :
    w.orderCancel oid red = w.orderReq oid
      (fun o => reqGuard (o.sim.kind = .limit) .onlyLimit (reductionTooLarge o red = true) .sizeReductionTooLarge o)
      (fun o => { o with ud := { o.ud with hasReduction := true, sizeReduction := red } }) .cancelling :=
  reqGuard_shape _ _ _ _ _ _ _ _ _

theorem orderUpdate_eq (w : World) (oid : Nat) (pers : String) :
    w.orderUpdate oid pers = w.orderReq oid
      (fun o => reqGuard (o.sim.kind = .limit) .onlyLimit (o.sim.persistence = pers) .persistenceMatch o)
      (fun o => { o with sim := { o.sim with persistence := pers } }) .updating :=
  reqGuard_shape _ _ _ _ _ _ _ _ _

theorem orderReplace_eq (w : World) (oid : Nat) (price : Rat) :
    w.orderReplace oid price = w.orderReq oid
      (fun o => reqGuard (o.sim.kind = .limit ∨ o.sim.kind = .limitOnClose) .onlyLimitOrLoc (o.sim.price = price) .pricesMatch o)
      (fun o => { o with ud := { o.ud with newPrice := some price } }) .replacing :=
  reqGuard_shape _ _ _ _ _ _ _ _ _

theorem orderReq_ok {w w' : World} {a : Nat} {typeOk bad : Order → Prop} [DecidablePred typeOk] [DecidablePred bad] {te be : ReqErr}
    {upd : Order → Order} {s : Status} (h : w.orderReq a (fun o => reqGuard (typeOk o) te (bad o) be o) upd s = .ok w') :
    (w.order! a).status = some .executable ∧ w' = (w.setOrder (upd (w.order! a))).orderUpdateStatus a s := by
  unfold orderReq at h
  split at h
  · cases h
  · rename_i hg
    exact ⟨((reqGuard_none_iff _ _ _ _ _).mp hg).2.2.1, (Except.ok.inj h).symm⟩

theorem orderCancel_ok {w w' : World} {a : Nat} {red : Option Rat} (h : w.orderCancel a red = .ok w') :
    (w.order! a).status = some .executable ∧
    w' = (w.setOrder { w.order! a with ud := { (w.order! a).ud with hasReduction := true, sizeReduction := red } }).orderUpdateStatus a .cancelling := by
  rw [orderCancel_eq] at h
  -- `upd` is read off `h`; elaborated against the goal it would have to be guessed from `upd (w.order! a)`
  have := orderReq_ok h
  exact this

theorem orderUpdate_ok {w w' : World} {a : Nat} {pers : String} (h : w.orderUpdate a pers = .ok w') :
    (w.order! a).status = some .executable ∧
    w' = (w.setOrder { w.order! a with sim := { (w.order! a).sim with persistence := pers } }).orderUpdateStatus a .updating := by
  rw [orderUpdate_eq] at h
  have := orderReq_ok h
  exact this

theorem orderReplace_ok {w w' : World} {a : Nat} {price : Rat} (h : w.orderReplace a price = .ok w') :
    (w.order! a).status = some .executable ∧
    w' = (w.setOrder { w.order! a with ud := { (w.order! a).ud with newPrice := some price } }).orderUpdateStatus a .replacing := by
  rw [orderReplace_eq] at h
  have := orderReq_ok h
  exact this

/-- The common shape of `txnCancel`, `txnUpdate` and `txnReplace`: the client test, the controls unless forced, the
    order's own guard `op`, and `file` recording the accepted request in the transaction. -/
def txnRequest (w : World) (t : Txn) (oid : Nat) (force : Bool) (k : PackKind) (op : World → Except ReqErr World)
    (file : Txn → Txn) : World × Txn × ReqResult :=
  if (w.order! oid).client ≠ some t.client then (w, t, .error .clientMismatch)
  else
    let (w, refusal) := if !force then w.validateControls oid t.client k else (w, none)
    match refusal with
    | some r => (w, t, .refused r)
    | none =>
      match op w with
      | .error e => (w, t, .error e)
      | .ok w => (w, file t, .accepted)

theorem txnCancel_eq (w : World) (t : Txn) (oid : Nat) (red : Option Rat) (f : Bool) :
    w.txnCancel t oid red f = w.txnRequest t oid f .cancel (·.orderCancel oid red)
      fun t => { t with pCancel := t.pCancel ++ [(oid, none)], pendingOrders := true } := rfl
theorem txnUpdate_eq (w : World) (t : Txn) (oid : Nat) (p : String) (f : Bool) :
    w.txnUpdate t oid p f = w.txnRequest t oid f .update (·.orderUpdate oid p)
      fun t => { t with pUpdate := t.pUpdate ++ [(oid, none)], pendingOrders := true } := rfl
theorem txnReplace_eq (w : World) (t : Txn) (oid : Nat) (p : Rat) (v : Option Int) (f : Bool) :
    w.txnReplace t oid p v f = w.txnRequest t oid f .replace (·.orderReplace oid p)
      fun t => { t with pReplace := t.pReplace ++ [(oid, v)], pendingOrders := true } := rfl

/-- the world the order's own guard is asked in -/
def afterControls (w : World) (t : Txn) (oid : Nat) (force : Bool) (k : PackKind) : World :=
  if force then w else (w.validateControls oid t.client k).1

theorem txnRequest_outcome (w : World) (t : Txn) (oid : Nat) (force : Bool) (k : PackKind) (op : World → Except ReqErr World)
    (file : Txn → Txn) :
    w.txnRequest t oid force k op file = (w, t, .error .clientMismatch) ∨
    (∃ r, force = false ∧ (w.validateControls oid t.client k).2 = some r ∧
      w.txnRequest t oid force k op file = ((w.validateControls oid t.client k).1, t, .refused r)) ∨
    ((force = false → (w.validateControls oid t.client k).2 = none) ∧
      ((∃ e, op (w.afterControls t oid force k) = .error e ∧
          w.txnRequest t oid force k op file = (w.afterControls t oid force k, t, .error e)) ∨
       (∃ w', op (w.afterControls t oid force k) = .ok w' ∧ w.txnRequest t oid force k op file = (w', file t, .accepted)))) := by
  unfold txnRequest afterControls
  -- (`by_cases` with `if_pos` / `if_neg`, here, in `processMarketBook_fst` and in `Rules.doActionCore`: `split` is several times slower on
  -- goals of this size)
  by_cases hc : (w.order! oid).client ≠ some t.client
  · exact .inl (if_pos hc)
  rw [if_neg hc]
  right
  cases force with
  | true =>
    right
    simp only [Bool.not_true, Bool.false_eq_true, if_false, if_true]
    cases h : op w with
    | error e => exact ⟨nofun, .inl ⟨e, rfl, rfl⟩⟩
    | ok w' => exact ⟨nofun, .inr ⟨w', rfl, rfl⟩⟩
  | false =>
    simp only [Bool.not_false, if_true, Bool.false_eq_true, if_false]
    cases hv : (w.validateControls oid t.client k).2 with
    | some r => exact .inl ⟨r, trivial, rfl, rfl⟩
    | none =>
      right
      cases h : op (w.validateControls oid t.client k).1 with
      | error e => exact ⟨fun _ => rfl, .inl ⟨e, rfl, rfl⟩⟩
      | ok w' => exact ⟨fun _ => rfl, .inr ⟨w', rfl, rfl⟩⟩

theorem txnRequest_cases (w : World) (t : Txn) (oid : Nat) (force : Bool) (k : PackKind) (op : World → Except ReqErr World) (file : Txn → Txn)
    (T : World → Txn → Prop) (h0 : T w t)
    (h1 : ∀ w1, w1 = w ∨ w1 = (w.validateControls oid t.client k).1 → T w1 t ∧ ∀ w2, op w1 = .ok w2 → T w2 (file t)) :
    T (w.txnRequest t oid force k op file).1 (w.txnRequest t oid force k op file).2.1 := by
  have ha : w.afterControls t oid force k = w ∨ w.afterControls t oid force k = (w.validateControls oid t.client k).1 := by
    unfold afterControls; cases force
    · exact .inr rfl
    · exact .inl rfl
  rcases txnRequest_outcome w t oid force k op file with e | ⟨r, _, _, e⟩ | ⟨_, ⟨_, _, e⟩ | ⟨w', hr, e⟩⟩ <;> rw [e]
  · exact h0
  · exact (h1 _ (.inr rfl)).1
  · exact (h1 _ ha).1
  · exact (h1 _ ha).2 w' hr

/-- the controls of a placement (skipped when it is forced or not to be executed), after `update_client` -/
def placeControls (w : World) (t : Txn) (oid : Nat) (ex force : Bool) : World × Option Refusal :=
  let w := w.modifyOrder oid fun o => { o with client := some t.client }
  if ex && !force then w.validateControls oid t.client .place else (w, none)

/-- `order.place(..)` and `blotter[order.id] = order` of an accepted placement and, when the request is to be
    executed, `runner_context.place`: the tail of `txnPlace` -/
def filePlacement (w : World) (t : Txn) (oid : Nat) (v : Option Int) (ex : Bool) : World :=
  let book := ((w.market! t.market).book).getD {}
  let w := w.modifyOrder oid fun o => { o with publishTime := some book.pt, marketVersion := v }
  let w := w.orderPlacing oid
  let o := w.order! oid
  let newTrade := !((w.market! t.market).blotter.any fun x => (w.order! x).trade = o.trade)
  let w := w.blotterAdd t.market oid
  let w := if newTrade then w.emit (.tradeEvent o.trade) else w
  if ex then w.ctxPlace ⟨o.strategy, o.market, o.sel, o.hc⟩ o.trade else w

theorem txnPlace_eq (w : World) (t : Txn) (oid : Nat) (v : Option Int) (ex force : Bool) :
    w.txnPlace t oid v ex force =
      let c := w.placeControls t oid ex force
      match c.2 with
      | some r => (c.1, t, .refused r)
      | none =>
        if (c.1.market! t.market).blotter.contains oid || (c.1.order! oid).status == some .executionComplete then
          (c.1, t, .error .alreadyPlaced)
        else (c.1.filePlacement t oid v ex,
              if ex then { t with pPlace := t.pPlace ++ [(oid, v)], pendingOrders := true } else t, .accepted) := by
  cases ex <;> rfl

theorem txnPlace_cases (w : World) (t : Txn) (oid : Nat) (v : Option Int) (ex force : Bool) (T : World → Txn → Prop)
    (refused : T (w.placeControls t oid ex force).1 t)
    (filed : oid ∉ ((w.placeControls t oid ex force).1.market! t.market).blotter →
      ((w.placeControls t oid ex force).1.order! oid).status ≠ some .executionComplete →
      T ((w.placeControls t oid ex force).1.filePlacement t oid v ex)
        (if ex then { t with pPlace := t.pPlace ++ [(oid, v)], pendingOrders := true } else t)) :
    T (w.txnPlace t oid v ex force).1 (w.txnPlace t oid v ex force).2.1 := by
  rw [txnPlace_eq]
  generalize w.placeControls t oid ex force = c at refused filed
  dsimp only; split
  · exact refused
  · split
    · exact refused
    · rename_i hn
      rw [Bool.or_eq_true, not_or] at hn
      exact filed (fun hin => hn.1 (List.contains_iff_mem.mpr hin)) (fun he => hn.2 (by rw [he]; rfl))

theorem txnPlace_outcome (w : World) (t : Txn) (oid : Nat) (v : Option Int) (ex force : Bool) :
    (∃ r, (w.placeControls t oid ex force).2 = some r ∧
      w.txnPlace t oid v ex force = ((w.placeControls t oid ex force).1, t, .refused r)) ∨
    ((w.placeControls t oid ex force).2 = none ∧
      w.txnPlace t oid v ex force = ((w.placeControls t oid ex force).1, t, .error .alreadyPlaced)) ∨
    ((w.placeControls t oid ex force).2 = none ∧ (w.txnPlace t oid v ex force).2 =
      (if ex then { t with pPlace := t.pPlace ++ [(oid, v)], pendingOrders := true } else t, .accepted)) := by
  rw [txnPlace_eq]
  generalize w.placeControls t oid ex force = c
  obtain ⟨w1, _ | r⟩ := c
  · right
    dsimp only
    split
    · exact .inl ⟨rfl, rfl⟩
    · exact .inr ⟨rfl, rfl⟩
  · exact .inl ⟨r, rfl, rfl⟩

/-! ### packaging -/

/-- the packages `_create_order_package` makes of the (version, chunk) pairs, numbered from `n` -/
def newPackages (kind : PackKind) (t : Txn) (d bd : Rat) (now : Time) : Nat → List (Option Int × List Nat) → List Package
  | _, [] => []
  | n, vc :: ps =>
    { id := n, kind := kind, market := t.market, orders := vc.2, created := now, delay := d, client := t.client,
      marketVersion := vc.1, betDelay := bd } :: newPackages kind t d bd now (n + 1) ps

theorem foldl_addPackage_eq (kind : PackKind) (t : Txn) (d bd : Rat) (ps : List (Option Int × List Nat)) (w : World) :
    ps.foldl (addPackage kind t d bd) w =
      { w with queue := w.queue ++ newPackages kind t d bd w.clock w.nextPackage ps, nextPackage := w.nextPackage + ps.length } := by
  induction ps generalizing w with
  | nil => rw [List.foldl_nil, newPackages, List.append_nil]; rfl
  | cons vc ps ih =>
    rw [List.foldl_cons, ih]
    simp only [addPackage, newPackages, List.append_assoc, List.cons_append, List.nil_append, List.length_cons,
      Nat.add_assoc, Nat.add_comm 1]

theorem createPackages_eq (w : World) (t : Txn) (pend : List (Nat × Option Int)) (kind : PackKind) :
    w.createPackages t pend kind =
      { w with
        queue := w.queue ++ newPackages kind t (delayOf w.cfg kind (((w.market! t.market).book).getD {}).betDelay)
          (((w.market! t.market).book).getD {}).betDelay w.clock w.nextPackage (packsOf pend kind),
        nextPackage := w.nextPackage + (packsOf pend kind).length } :=
  foldl_addPackage_eq kind t _ _ _ w

theorem newPackages_map (kind : PackKind) (t : Txn) (d bd : Rat) (now : Time) (n : Nat) (ps : List (Option Int × List Nat)) :
    (newPackages kind t d bd now n ps).map (fun p => (p.kind, p.market, p.client, p.marketVersion, p.orders, p.created, p.delay)) =
      ps.map fun vc => (kind, t.market, t.client, vc.1, vc.2, now, d) := by
  induction ps generalizing n with
  | nil => rfl
  | cons vc ps ih => rw [newPackages, List.map_cons, List.map_cons, ih]

/-- the four pending lists of a transaction with their kinds, in the order `execute()` packages them -/
def pendingLists (t : Txn) : List (List (Nat × Option Int) × PackKind) :=
  [(t.pPlace, .place), (t.pCancel, .cancel), (t.pUpdate, .update), (t.pReplace, .replace)]

def pack (t : Txn) (w : World) (pk : List (Nat × Option Int) × PackKind) : World :=
  if pk.1.isEmpty then w else w.createPackages t pk.1 pk.2

theorem txnExecute_fst (w : World) (t : Txn) : (w.txnExecute t).1 = (pendingLists t).foldl (pack t) w := rfl

/-! ### blotter -/

/-- the market's part of `Blotter.__setitem__`: the id enters the blotter and the live list (the order's part is a note
    on the order: `inBlotter`, `blotterClient`) -/
def blotterAppend (w : World) (mid oid : Nat) : World :=
  w.modifyMarket mid fun m => { m with active := true, blotter := m.blotter ++ [oid], live := m.live ++ [oid] }

theorem blotterAdd_eq (w : World) (mid oid : Nat) :
    w.blotterAdd mid oid = (w.blotterAppend mid oid).modifyOrder oid fun o => { o with inBlotter := true, blotterClient := o.client } := rfl

/-! ### response handlers: the world after one order has been dealt with -/

/-- `cancelStep` without its failure count -/
def cancelOne (w : World) (p : Package) (oid : Nat) : World :=
  let o := w.order! oid
  let w := w.tradeEnter o.trade
  let book := ((w.market! p.market).book).getD {}
  let red := if o.ud.hasReduction then o.ud.sizeReduction else none
  let r := o.sim.cancel book.status red
  let w := w.modifyOrder oid fun o => { o with sim := r.1, cancelResponses := o.cancelResponses + 1 }
  let w := match r.2.status with
    | .success => if (w.order! oid).sim.sizeRemaining = 0 then w.orderExecutionComplete oid else w.orderExecutable oid
    | .failure => w.orderExecutable oid
  w.tradeExit o.trade

theorem cancelStep_fst (p : Package) (acc : World × Nat) (oid : Nat) : (cancelStep p acc oid).1 = acc.1.cancelOne p oid := by
  obtain ⟨w, failed⟩ := acc
  unfold cancelStep cancelOne
  dsimp only
  generalize SimOrder.cancel _ _ _ = r
  obtain ⟨sim', ⟨st, sc, ec⟩⟩ := r
  cases st
  · dsimp only; split <;> rfl
  · rfl

/-- `updateStep` without its failure count -/
def updateOne (w : World) (p : Package) (oid : Nat) : World :=
  let o := w.order! oid
  let w := w.tradeEnter o.trade
  let book := ((w.market! p.market).book).getD {}
  let r := o.sim.update book.view o.sim.persistence
  let w := w.modifyOrder oid fun o => { o with sim := r.1, updateResponses := o.updateResponses + 1 }
  (w.orderExecutable oid).tradeExit o.trade

theorem updateStep_fst (p : Package) (acc : World × Nat) (oid : Nat) : (updateStep p acc oid).1 = acc.1.updateOne p oid := by
  unfold updateStep updateOne; rfl

/-- the order `Trade.create_order_replacement` builds -/
def replacementOf (w : World) (oid : Nat) (newPrice size : Rat) (created : Time) : Order :=
  let o := w.order! oid
  { id := w.orders.length, trade := o.trade, strategy := o.strategy, client := o.client, market := o.market, sel := o.sel,
    hc := o.hc, created := created, statusAt := w.clock,
    sim := { side := o.sim.side, kind := .limit, price := newPrice, size := size, persistence := o.sim.persistence } }

theorem createReplacement_snd (w : World) (oid : Nat) (np sz : Rat) (cr : Time) : (w.createReplacement oid np sz cr).2 = w.orders.length := rfl

theorem createReplacement_appended (w : World) (oid : Nat) (np sz : Rat) (cr : Time) :
    OL.Appended w (w.replacementOf oid np sz cr) (w.createReplacement oid np sz cr).1 :=
  ⟨rfl, rfl, rfl, rfl, _, rfl⟩

/-- the place half of a simulated replace once the replaced order has completed: the replacement order is created and
    placed at once (`market.place_order(..., execute=False)`) or, refused, completes at once -/
def replaceRest (p : Package) (w : World) (o : Order) (oid : Nat) (book : Book) (newPrice : Option Rat) (sizeCancelled : Rat) : World :=
  let cr := w.createReplacement oid (newPrice.getD 0) sizeCancelled p.created
  let rid := cr.2
  let w := cr.1
  let r := w.order! rid
  let c := w.client! p.client
  let runner := (runnerOf book r.sel r.hc).getD { sel := r.sel }
  let pr := r.sim.place p.marketVersion c.bpe (w.client! (r.client.getD 0)).fullMatch book.view runner.view false none w.betId
  let w := w.modifyOrder rid fun x => { x with sim := pr.1 }
  match pr.2.status with
  | .success =>
    let w := w.modifyOrder rid fun x => { x with placedAt := some w.clock, betId := pr.2.betId }
    let w := w.emit (.orderEvent rid)
    let tp := w.txnPlace { market := p.market, client := o.client.getD ((w.clients.head?.map (·.id)).getD 0) } rid none false false
    (tp.1.orderExecutable rid).tradeExit o.trade
  | .failure => ((w.orderExecutionComplete rid).orderExecutable oid).tradeExit o.trade

theorem replacePlace_fst (p : Package) (w : World) (o : Order) (oid : Nat) (book : Book) (np : Option Rat) (sc : Rat) (failed : Nat) :
    (replacePlace p w o oid book np sc failed).1 = replaceRest p (w.orderExecutionComplete oid).bumpBetId o oid book np sc := by
  have fst_match {α β} (st : SimOrder.RespStatus) (a b : α) (n : β) :
      (match st with | .success => (a, n) | .failure => (b, n)).1 = match st with | .success => a | .failure => b := by cases st <;> rfl
  exact fst_match ..

/-- the orders of a replace package that have not completed since the request, each with its own instruction -/
def replaceInstructions (w : World) (p : Package) : List (Nat × Option Rat) :=
  ((w.packageOrders p).filter fun oid => (w.order! oid).status ≠ some .executionComplete).map fun oid => (oid, (w.order! oid).ud.newPrice)

/-- the world after the loop of the handler of `p`'s kind, before the closing `client.add_transaction` calls -/
def handlerLoop (w : World) (p : Package) : World :=
  match p.kind with
  | .place => (w.packageOrders p).foldl (placeStep p) w
  | .cancel => ((w.packageOrders p).foldl (cancelStep p) (w, 0)).1
  | .update => ((w.packageOrders p).foldl (updateStep p) (w, 0)).1
  | .replace => ((w.replaceInstructions p).foldl (replaceStep p) (w, 0)).1

/-! ### runner removal: the branches of `removalOnOrder` -/

theorem removalOnOrder_on (w : World) (m : Market) (rsel : Nat) (rhc : Rat) (raf : Option Rat) (o : Order)
    (hon : o.market = m.id ∧ o.sel = rsel ∧ o.hc = rhc) :
    w.removalOnOrder m rsel rhc raf o =
      { o with sim := { o.sim with sizeMatched := 0, avgPrice := 0, matched := [],
                                   sizeVoided := (match o.sim.kind with | .limit => o.sim.size | _ => o.sim.liability),
                                   sizeCancelled := 0, sizeLapsed := 0, bspReconciled := true } } :=
  if_pos hon

/-- what a removal does to a market-on-close lay order on another runner: the liability times `mult` and, `if
    order.average_price_matched:` (the non-runner was declared in play), the matched size re-derived from it; the model
    writes this out for WIN and again for PLACE / OTHER_PLACE markets, as the code does -/
def scaleLiability (o : Order) (mult : Rat) : Order :=
  if o.sim.avgPrice ≠ 0 then
    { o with sim := { o.sim with liability := o.sim.liability * mult,
                                 sizeMatched := round2 (o.sim.liability * mult / (o.sim.avgPrice - 1)) } }
  else { o with sim := { o.sim with liability := o.sim.liability * mult } }

theorem scaleLiability_liability (o : Order) (mult : Rat) : (scaleLiability o mult).sim.liability = o.sim.liability * mult := by
  unfold scaleLiability
  split <;> rfl

theorem removalOnOrder_mocLay (w : World) (m : Market) (rsel : Nat) (rhc : Rat) (raf : Option Rat) (o : Order)
    (hno : ¬ (o.market = m.id ∧ o.sel = rsel ∧ o.hc = rhc)) (hm : o.sim.kind = .marketOnClose ∧ o.sim.side = .lay) :
    w.removalOnOrder m rsel rhc raf o =
      if (m.book.getD {}).marketType = "WIN" then
        scaleLiability o (1 - raf.getD 0 / (100 - ((runnerOf (m.book.getD {}) o.sel o.hc).bind (·.af)).getD 0))
      else if (m.book.getD {}).marketType = "PLACE" ∨ (m.book.getD {}).marketType = "OTHER_PLACE" then
        scaleLiability o ((100 - raf.getD 0) * (1 / 100))
      else o :=
  (if_neg hno).trans (if_pos hm)

theorem removalOnOrder_other (w : World) (m : Market) (rsel : Nat) (rhc : Rat) (raf : Option Rat) (o : Order)
    (hno : ¬ (o.market = m.id ∧ o.sel = rsel ∧ o.hc = rhc)) (hnm : ¬ (o.sim.kind = .marketOnClose ∧ o.sim.side = .lay)) :
    w.removalOnOrder m rsel rhc raf o =
      match raf with
      | some af =>
        if af ≠ 0 ∧ Gen.winMinimumAdjustmentFactor ≤ af then
          let ms := o.sim.matched.map fun f => { f with price := reductionFactor f.price af }
          { o with sim := { o.sim with matched := ms, avgPrice := (wap ms).2 } }
        else o
      | none => o :=
  (if_neg hno).trans (if_neg hnm)

theorem removalOnOrder_eq (w : World) (m : Market) (rsel : Nat) (rhc : Rat) (raf : Option Rat) (o : Order) :
    ∃ s, w.removalOnOrder m rsel rhc raf o = { o with sim := s } := by
  have sc (mult : Rat) : ∃ s, scaleLiability o mult = { o with sim := s } := by
    unfold scaleLiability; split <;> exact ⟨_, rfl⟩
  by_cases hon : o.market = m.id ∧ o.sel = rsel ∧ o.hc = rhc
  · exact ⟨_, removalOnOrder_on w m rsel rhc raf o hon⟩
  · by_cases hm : o.sim.kind = .marketOnClose ∧ o.sim.side = .lay
    · rw [removalOnOrder_mocLay w m rsel rhc raf o hon hm]
      split
      · exact sc _
      · split
        · exact sc _
        · exact ⟨_, rfl⟩
    · rw [removalOnOrder_other w m rsel rhc raf o hon hm]
      cases raf with
      | none => exact ⟨_, rfl⟩
      | some af => dsimp only; split <;> exact ⟨_, rfl⟩

/-! ### middleware -/

/-- the first half of the middleware: runner removals detected and applied to the orders of the blotter -/
def applyRemovals (w : World) (mid : Nat) : World :=
  (w.mwUpdateAnalytics mid).2.foldl (fun w k => w.processRunnerRemoval mid k.1 k.2.1 k.2.2) (w.mwUpdateAnalytics mid).1

theorem simulatedMiddleware_eq (w : World) (mid : Nat) :
    w.simulatedMiddleware mid =
      if ((w.applyRemovals mid).market! mid).active then (w.applyRemovals mid).mwProcessSimulatedOrders mid else w.applyRemovals mid := rfl

/-- the test for an empty live list only saves work: matching no orders changes nothing -/
theorem matchStrategy_eq (mid : Nat) (w : World) (sid : Nat) :
    matchStrategy mid w sid = w.matchOrders mid (sortOrders (w.strategyLive mid sid)) false := by
  unfold matchStrategy
  dsimp only
  split
  · rename_i h; rw [List.isEmpty_iff.mp h]; rfl
  · rfl

theorem mem_insertBy (key : Order → Rat) (o x : Order) (l : List Order) (h : x ∈ insertBy key o l) : x = o ∨ x ∈ l := by
  induction l with
  | nil => exact Or.inl (List.mem_singleton.mp h)
  | cons y ys ih =>
    unfold insertBy at h
    split at h
    · exact List.mem_cons.mp h
    · rcases List.mem_cons.mp h with e | e
      · exact Or.inr (e ▸ List.mem_cons_self)
      · exact (ih e).imp_right (List.mem_cons_of_mem _)

theorem mem_stableSortBy (key : Order → Rat) (l : List Order) (x : Order) (h : x ∈ stableSortBy key l) : x ∈ l := by
  have : ∀ l acc : List Order, x ∈ l.foldl (fun acc o => insertBy key o acc) acc → x ∈ acc ∨ x ∈ l := by
    intro l
    induction l with
    | nil => exact fun _ h => Or.inl h
    | cons y ys ih =>
      intro acc h
      rcases ih _ h with e | e
      · exact (mem_insertBy key y x acc e).symm.imp_right fun e' => by rw [e']; exact List.mem_cons_self
      · exact Or.inr (List.mem_cons_of_mem _ e)
  exact (this l [] h).resolve_left List.not_mem_nil

theorem mem_sortOrders (l : List Order) (x : Order) (h : x ∈ sortOrders l) : x ∈ l := by
  unfold sortOrders at h
  simp only [List.mem_append] at h
  rcases h with (h | h) | h
  · exact (List.mem_filter.mp (mem_stableSortBy _ _ x h)).1
  · exact (List.mem_filter.mp (mem_stableSortBy _ _ x h)).1
  · exact (List.mem_filter.mp h).1

/-- what `order.simulated(market_book, runner_traded)` answers for the order `o0` names, in world `w` with the traded copy `lk` -/
def matchCall (mid : Nat) (w : World) (lk : List (Nat × Rat × List (Rat × Rat))) (o0 : Order) : SimOrder × List (Rat × Rat) × Bool :=
  let book := (w.market! mid).book.getD {}
  let o := w.order! o0.id
  o.sim.call book.view ((runnerOf book o.sel o.hc).bind (·.sp))
    (((lk.find? fun e => e.1 = o.sel ∧ e.2.1 = o.hc).map (·.2.2)).getD []) (w.client! (o.client.getD 0)).minBspLiability

theorem matchStep_eq (mid : Nat) (recheck : Bool) (w : World) (lk : List (Nat × Rat × List (Rat × Rat))) (o0 : Order) :
    matchStep mid recheck (w, lk) o0 =
      if recheck && !isMwLive (w.order! o0.id) then (w, lk)
      else
        (if (matchCall mid w lk o0).2.2 then
            (w.modifyOrder (w.order! o0.id).id fun x => { x with sim := (matchCall mid w lk o0).1 }).orderExecutionComplete (w.order! o0.id).id
          else w.modifyOrder (w.order! o0.id).id fun x => { x with sim := (matchCall mid w lk o0).1 },
          lk.map fun e => if e.1 = (w.order! o0.id).sel ∧ e.2.1 = (w.order! o0.id).hc then (e.1, e.2.1, (matchCall mid w lk o0).2.1) else e) := rfl

/-! ### a whole update: arrival of the book, taking it in, simulation, callbacks (`processMarketBook_fst`) -/

def arrive (w : World) (mid : Nat) (book : Book) : World :=
  let w := w.setClock book.pt
  if w.queue.isEmpty then w else w.checkPendingPackages mid

def receive (w : World) (mid : Nat) (book : Book) : World :=
  let w := if (w.market? mid).isNone then
      ({ w with markets := w.markets ++ [({ id := mid, book := some book } : Market)] } : World).emit (.marketEvent mid)
    else if (w.market! mid).closed then w.modifyMarket mid fun m => { m with closed := false }
    else w
  w.modifyMarket mid fun m => { m with book := some book }

def settle (w : World) (mid : Nat) : World :=
  let w := w.simulatedMiddleware mid
  if (w.market! mid).active then w.processSimulatedOrders mid else w

/-- one strategy's `process_market_book` callback: the world part of the loop over the strategies -/
def callback (isNew : Bool) (mid : Nat) (book : Book) (script : Nat → List Action) (w : World) (s : Strategy) : World :=
  if s.streams.contains book.streamId then
    let w := if isNew then w.emit (.newMarket s.id mid) else w
    ((w.emit (.bookCallback s.id mid book.pt)).doActions mid (script s.id)).1
  else w

theorem processMarketBook_fst (w : World) (mid : Nat) (book : Book) (script : Nat → List Action) :
    (w.processMarketBook mid book script).1 =
      if book.status = .closed then (w.arrive mid book).processCloseMarket mid book
      else (((w.arrive mid book).receive mid book).settle mid).strategies.foldl
        (callback ((w.arrive mid book).market? mid).isNone mid book script) (((w.arrive mid book).receive mid book).settle mid) := by
  unfold processMarketBook
  extract_lets w1 w2 isNew w3 w4 w5 w6
  have e2 : w.arrive mid book = w2 := rfl
  have e6 : (w2.receive mid book).settle mid = w6 := rfl
  rw [e2]
  by_cases hc : book.status = .closed
  · rw [if_pos hc, if_pos hc]
  · rw [if_neg hc, if_neg hc, e6]
    -- as let-variables the stages would be unfolded again by every unification below
    clear_value w1 w2 w3 w4 w5 w6
    refine foldl_fst _ _ (fun acc s => ?_) _ _
    unfold callback
    obtain ⟨w, outs⟩ := acc
    dsimp -zeta only
    by_cases hs : s.streams.contains book.streamId = true
    · rw [if_pos hs, if_pos hs]
    · rw [if_neg hs, if_neg hs]

end World

/-! ### the close of a market -/

/-- the world in which the callbacks and cleared events of a closing update are computed: market
    marked closed, closing book installed, results copied to the orders -/
def C20.preClose (w : World) (mid : Nat) (book : Book) (m : Market) : World :=
  ((if !m.closed then w.modifyMarket mid fun m => { m with closed := true, closedAt := some w.clock } else w).modifyMarket mid
    fun m => { m with book := some book }).blotterProcessClosed mid book

/-- the rest of a closing update: callbacks, cleared events and the close event; then the market's analytics and the
    runner contexts of the market are dropped -/
def World.closeOut (w : World) (mid : Nat) (book : Book) : World :=
  let w := { w with out := w.out ++ w.closeCallbacks mid book ++ w.clearedEvents mid ++ [Ev.closeEvent mid] }
  let w := w.modifyMarket mid fun m => { m with analytics := [], hasAnalytics := false }
  { w with ctxs := w.ctxs.filter fun c => c.key.market ≠ mid }

theorem World.processCloseMarket_none (w : World) (mid : Nat) (book : Book) (h : w.market? mid = none) :
    w.processCloseMarket mid book = w.emit (.warnNoMarket mid) := by
  unfold World.processCloseMarket; rw [h]

theorem World.processCloseMarket_some (w : World) (mid : Nat) (book : Book) (m : Market) (h : w.market? mid = some m) :
    w.processCloseMarket mid book = (C20.preClose w mid book m).closeOut mid book := by
  unfold World.processCloseMarket; rw [h]; rfl

namespace C15
open World

/-- the body of the completion loop of `_process_simulated_orders`: an order that is complete, or is completed here because its
    simulated part says so, leaves the live list -/
def loopStep (mid : Nat) (w : World) (oid : Nat) : World :=
  let o := w.order! oid
  if o.complete then w.blotterComplete mid oid
  else match o.sim.kind with
    | .limit =>
      if o.sim.sizeRemaining = 0 then (w.orderExecutionComplete oid).blotterComplete mid oid else w
    | _ =>
      if o.sim.simStatus = .executionComplete then (w.orderExecutionComplete oid).blotterComplete mid oid else w

theorem loopStep_keeps_or_completes (mid : Nat) (w : World) (oid : Nat) :
    loopStep mid w oid = w ∨
    (w.order! oid).complete = true ∧ loopStep mid w oid = w.blotterComplete mid oid ∨
    loopStep mid w oid = (w.orderExecutionComplete oid).blotterComplete mid oid := by
  unfold loopStep
  simp only
  by_cases hc : (w.order! oid).complete = true
  · right; left; simp [hc]
  · simp only [hc, Bool.false_eq_true, if_false]
    split <;> split
    · right; right; rfl
    · left; rfl
    · right; right; rfl
    · left; rfl

/-- the `process_orders` callbacks that end `_process_simulated_orders`: one per strategy with orders in the market -/
def processOrdersCallbacks (w : World) (mid : Nat) : World :=
  w.strategies.foldl (fun w s =>
    let n := (w.strategyOrders mid s.id).length
    if n ≠ 0 then w.emit (.processOrders s.id mid n) else w) w

theorem processSimulatedOrders_loop (w : World) (mid : Nat) :
    w.processSimulatedOrders mid = processOrdersCallbacks ((w.market! mid).live.foldl (loopStep mid) w) mid := rfl

end C15

/-- a whole run: any sequence of market updates (market id, book, what every strategy does in its callback) -/
def Inv.runUpdates (w : World) (us : List (Nat × Book × (Nat → List Action))) : World :=
  us.foldl (fun w u => (w.processMarketBook u.1 u.2.1 u.2.2).1) w

end Flumine
