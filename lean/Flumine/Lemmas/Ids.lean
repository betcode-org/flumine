/- Lemmas/Ids.lean — the order table only ever grows: no function of the world model deletes an order
   or changes an order's id (orders are identified by their creation index). -/
import Flumine.Lemmas.Eff
import Flumine.Lemmas.OrderLemmas
namespace Flumine.Ids
open Flumine.World Flumine.OL

/-- the ids of the order table, in creation order -/
def ids (w : World) : List Nat := w.orders.map (·.id)

theorem hasOrder_iff (w : World) (id : Nat) : HasOrder w id ↔ id ∈ ids w := by
  unfold HasOrder ids
  rw [← Option.isSome_iff_exists, List.find?_isSome, List.mem_map]
  simp only [decide_eq_true_eq]

theorem hasOrder_of_ids {w w' : World} (h : ids w' = ids w) (id : Nat) : HasOrder w' id ↔ HasOrder w id := by
  rw [hasOrder_iff, hasOrder_iff, h]

def Keeps (w w' : World) : Prop := ∃ extra, ids w' = ids w ++ extra

theorem Keeps.refl (w : World) : Keeps w w := ⟨[], by simp⟩
theorem Keeps.trans {a b c : World} (h1 : Keeps a b) (h2 : Keeps b c) : Keeps a c := by
  obtain ⟨e1, h1⟩ := h1; obtain ⟨e2, h2⟩ := h2
  exact ⟨e1 ++ e2, by rw [h2, h1, List.append_assoc]⟩
theorem Keeps.of_eq {w w' : World} (h : w'.orders = w.orders) : Keeps w w' := ⟨[], by unfold ids; rw [h]; simp⟩
theorem Keeps.mem {w w' : World} (h : Keeps w w') (id : Nat) (ho : id ∈ ids w) : id ∈ ids w' := by
  obtain ⟨e, he⟩ := h; rw [he]; exact List.mem_append_left _ ho
theorem Keeps.hasOrder {w w' : World} (h : Keeps w w') (id : Nat) (ho : HasOrder w id) : HasOrder w' id :=
  (hasOrder_iff w' id).mpr (h.mem id ((hasOrder_iff w id).mp ho))

section appended
variable {w w' : World} {o : Order} (h : Appended w o w')
include h

theorem _root_.Flumine.OL.Appended.ids : ids w' = ids w ++ [w.orders.length] := by
  unfold Ids.ids; rw [h.orders, List.map_append, List.map_singleton, h.id]

theorem _root_.Flumine.OL.Appended.keeps : Keeps w w' := ⟨_, h.ids⟩

theorem _root_.Flumine.OL.Appended.hasOrder (x : Nat) : HasOrder w' x ↔ HasOrder w x ∨ x = o.id := by
  rw [hasOrder_iff, hasOrder_iff, h.ids, List.mem_append, List.mem_singleton, h.id]

theorem _root_.Flumine.OL.Appended.has : HasOrder w' o.id := (h.hasOrder o.id).mpr (Or.inr rfl)

theorem _root_.Flumine.OL.Appended.cases {x : Nat} (hx : HasOrder w' x) :
    HasOrder w x ∧ w'.order! x = w.order! x ∨ ¬ HasOrder w x ∧ w'.order! x = o := by
  by_cases hw : HasOrder w x
  · exact Or.inl ⟨hw, h.order! hw⟩
  · have e : x = o.id := ((h.hasOrder x).mp hx).resolve_left hw
    exact Or.inr ⟨hw, by rw [e]; exact h.new (e ▸ hw)⟩

end appended

theorem _root_.Flumine.Write.ids {k : Kind} {w w' : World} (h : Write k w w') :
    Ids.ids w' = Ids.ids w ∨ k = .newOrder ∧ ∃ o : Order, Ids.ids w' = Ids.ids w ++ [o.id] := by
  induction h with
  | order w g hg => exact .inl (map_map_of_keeps _ g _ fun x => congrArg Prod.fst (hg x))
  | setOrder w g hg => exact .inl (map_map_of_keeps _ g _ hg)
  | newOrder w o => exact .inr ⟨rfl, o, List.map_append⟩
  | _ => exact .inl rfl

theorem _root_.Flumine.Write.keeps {k : Kind} {w w' : World} (h : Write k w w') : Keeps w w' :=
  h.ids.elim (fun e => ⟨[], by rw [e, List.append_nil]⟩) fun ⟨_, o, e⟩ => ⟨[o.id], e⟩

theorem _root_.Flumine.Eff.keeps {S : List Kind} {w w' : World} (h : Eff S w w') : Keeps w w' := by
  induction h with
  | refl => exact Keeps.refl _
  | step _ hw _ ih => exact hw.keeps.trans ih

theorem _root_.Flumine.Eff.ids {S : List Kind} {w w' : World} (h : Eff S w w') (hS : Kind.Disj S [Kind.newOrder] := by decide) :
    Ids.ids w' = Ids.ids w :=
  h.avoid Ids.ids _ (fun hw hk => hw.ids.resolve_right fun e => hk (e.1 ▸ List.mem_singleton_self _)) hS

theorem _root_.Flumine.Eff.hasOrder {S : List Kind} {w w' : World} (h : Eff S w w') (oid : Nat)
    (hS : Kind.Disj S [Kind.newOrder] := by decide) : HasOrder w' oid ↔ HasOrder w oid :=
  hasOrder_of_ids (h.ids hS) oid

theorem eq_of_new {w w' : World} {n x : Nat} (h : ids w' = ids w ++ [n]) (hx : ¬ HasOrder w x) (hx' : HasOrder w' x) : x = n := by
  rw [hasOrder_iff, h] at hx'
  exact (List.mem_append.mp hx').elim (fun h => absurd ((hasOrder_iff w x).mpr h) hx) List.mem_singleton.mp

/-- the order table only ever grows: whatever update is processed - packages executed, removals applied,
    matching, completion, closure, any scripted requests of any strategies - every order that existed
    before still exists afterwards under the same id -/
theorem orders_never_lost (w : World) (mid : Nat) (book : Book) (script : Nat → List Action) (id : Nat) (h : HasOrder w id) :
    HasOrder (w.processMarketBook mid book script).1 id :=
  (eff_processMarketBook w mid book script).keeps.hasOrder id h

end Flumine.Ids
