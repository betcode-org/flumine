/- Lemmas/Removed.lean — what one update does to the markets' lists of applied runner removals, as a function of the update
   alone (`Frame.lean`: nothing but `mwUpdateAnalytics` writes them). -/
import Flumine.Lemmas.Frame
import Flumine.Lemmas.OrderLemmas
namespace Flumine.Removed
open Flumine.World

abbrev Key := Nat × Rat × Option Rat

/-- the list of market `mid` in the projection (empty for a market that is not there) -/
def lookupRem (K : List (Nat × List Key)) (mid : Nat) : List Key := ((K.find? fun e => e.1 = mid).map (·.2)).getD []

theorem lookupRem_cases (K : List (Nat × List Key)) (mid : Nat) : lookupRem K mid = [] ∨ (mid, lookupRem K mid) ∈ K := by
  unfold lookupRem
  rcases find?_key Prod.fst K mid with ⟨e, he, rfl, hf⟩ | ⟨_, hf⟩ <;> rw [hf]
  · exact .inr he
  · exact .inl rfl

theorem market!_removals (w : World) (mid : Nat) : (w.market! mid).removals = lookupRem w.mrem mid := by
  unfold market! lookupRem World.mrem
  rw [List.find?_map]
  show _ = (((w.market? mid).map fun m => (m.id, m.removals)).map (·.2)).getD []
  cases w.market? mid <;> rfl

theorem mwUpdateAnalytics_mrem (w : World) (mid : Nat) :
    (w.mwUpdateAnalytics mid).1.mrem = w.mrem.map fun e =>
      if e.1 = mid then (e.1, (detectRemovals ((w.market! mid).book.getD {}).runners (w.market! mid).removals).1) else e := by
  unfold mwUpdateAnalytics World.mrem modifyMarket
  simp only [List.map_map]
  apply List.map_congr_left
  intro x _
  simp only [Function.comp]
  split <;> rfl

theorem settle_mrem (w : World) (mid : Nat) : (w.settle mid).mrem = (w.mwUpdateAnalytics mid).1.mrem := by
  -- what follows the one writer - the removals, the matching, the completion loop - has a footprint without `.mrem`
  unfold settle; dsimp only; split
  · exact ((eff_afterAnalytics w mid).trans (eff_processSimulatedOrders ..) (T := .blotter :: .out :: lifecycle)).mrem
  · exact (eff_afterAnalytics w mid).mrem

/-- the specification, on the projection: a closing update changes nothing; any other update makes the market known (with an
    empty list) and appends to ITS list the REMOVED runners of the book that are not in it yet -/
def specRem (K : List (Nat × List Key)) (u : Nat × Book × (Nat → List Action)) : List (Nat × List Key) :=
  if u.2.1.status = .closed then K
  else
    let K' := if u.1 ∈ K.map (·.1) then K else K ++ [(u.1, [])]
    K'.map fun e => if e.1 = u.1 then (e.1, (detectRemovals u.2.1.runners (lookupRem K' u.1)).1) else e

theorem market?_isNone_iff (w : World) (mid : Nat) : (w.market? mid).isNone = true ↔ mid ∉ w.mrem.map (·.1) := by
  rw [show w.mrem.map (·.1) = w.mids from List.map_map, ← Mids.market?_isSome_iff, Option.not_isSome_iff_eq_none, Option.isNone_iff_eq_none]

theorem receive_mrem (w : World) (mid : Nat) (book : Book) :
    (w.receive mid book).mrem = (if mid ∈ w.mrem.map (·.1) then w.mrem else w.mrem ++ [(mid, [])]) ∧
    ((w.receive mid book).market! mid).book = some book := by
  constructor
  · rcases receive_cases w mid book with ⟨hn, h⟩ | ⟨hn, h⟩ <;> rw [h.mrem]
    · rw [if_neg ((market?_isNone_iff w mid).mp hn)]; exact List.map_append
    · rw [if_pos (Classical.not_not.mp (mt (market?_isNone_iff w mid).mpr hn))]
  · unfold receive
    extract_lets w1
    have hs : mid ∈ w1.mids := by
      rw [← (eff_modifyMarket w1 mid fun m => { m with book := some book }).mids]
      exact Mids.mem_receive w mid book
    rw [OL.market!_modify_self w1 mid (fun m => { m with book := some book }) ((Mids.market?_isSome_iff w1 mid).mpr hs)]

theorem processMarketBook_mrem (w : World) (mid : Nat) (book : Book) (script : Nat → List Action) :
    (w.processMarketBook mid book script).1.mrem = specRem w.mrem (mid, book, script) := by
  obtain ⟨w1, h1, ⟨hc, e⟩ | ⟨hc, h4⟩⟩ := processMarketBook_cases w mid book script
  · rw [e, specRem, if_pos hc, (eff_processCloseMarket ..).mrem, h1.mrem]
  · obtain ⟨e1, e2⟩ := receive_mrem w1 mid book
    -- only the middleware writes a list: that of `mid`, from the book just stored and the list as `receive` left it
    rw [specRem, if_neg hc, h4.mrem, settle_mrem, mwUpdateAnalytics_mrem, e2, market!_removals, e1, h1.mrem]; rfl

theorem runUpdates_mrem (w : World) (us : List (Nat × Book × (Nat → List Action))) :
    (Inv.runUpdates w us).mrem = us.foldl specRem w.mrem :=
  (List.foldl_hom World.mrem (g₂ := specRem) fun w u => (processMarketBook_mrem w u.1 u.2.1 u.2.2).symm).symm

end Flumine.Removed
