/- Lemmas/Pending.lean — the outstanding operations of a world and an open transaction, as lists of order ids (one entry per
   accepted request that has not been executed yet): what the handler queue holds and what the transaction has accepted and
   not yet packaged. -/
import Flumine.Txn
namespace Flumine.Fl

def txnIds (t : Txn) : List Nat := (t.pPlace ++ t.pCancel ++ t.pUpdate ++ t.pReplace).map (·.1)

def batchIds : Option Txn → List Nat
  | none => []
  | some t => txnIds t

def queueIds (w : World) : List Nat := w.queue.flatMap (·.orders)

def pendIds (w : World) (b : Option Txn) : List Nat := queueIds w ++ batchIds b

theorem pendIds_none (w : World) : pendIds w none = queueIds w := List.append_nil _

theorem pendIds_of_nil (w : World) {t : Txn} (ht : txnIds t = []) : pendIds w (some t) = pendIds w none :=
  congrArg (queueIds w ++ ·) ht

theorem pendIds_congr {w w' : World} (h : w'.queue = w.queue) (b : Option Txn) : pendIds w' b = pendIds w b := by
  unfold pendIds queueIds; rw [h]

theorem mem_queueIds {w : World} {oid : Nat} : oid ∈ queueIds w ↔ ∃ p ∈ w.queue, oid ∈ p.orders := by
  unfold queueIds; exact List.mem_flatMap

theorem mem_pendIds_of_queued {w : World} {p : Package} {oid : Nat} (hp : p ∈ w.queue) (ho : oid ∈ p.orders) (b : Option Txn) :
    oid ∈ pendIds w b :=
  List.mem_append_left _ (mem_queueIds.mpr ⟨p, hp, ho⟩)

theorem txnIds_txnExecute (w : World) (t : Txn) : txnIds (w.txnExecute t).2 = [] := rfl

/-! An accepted request adds its order to the ids of the transaction: the new entry stands at the end of one of the four lists
    and is moved to the front. -/

theorem perm_append_snoc {α} (a b : List α) (x : α) : (a ++ (b ++ [x])).Perm (x :: (a ++ b)) := by
  rw [← List.append_assoc]; exact List.perm_append_singleton _ _

theorem txnIds_place (t : Txn) (x : Nat × Option Int) (b : Bool) :
    (txnIds { t with pPlace := t.pPlace ++ [x], pendingOrders := b }).Perm (x.1 :: txnIds t) :=
  ((((List.perm_append_singleton x t.pPlace).append_right t.pCancel).append_right t.pUpdate).append_right t.pReplace).map
    fun y : Nat × Option Int => y.1

theorem txnIds_cancel (t : Txn) (x : Nat × Option Int) (b : Bool) :
    (txnIds { t with pCancel := t.pCancel ++ [x], pendingOrders := b }).Perm (x.1 :: txnIds t) :=
  (((perm_append_snoc t.pPlace t.pCancel x).append_right t.pUpdate).append_right t.pReplace).map fun y : Nat × Option Int => y.1

theorem txnIds_update (t : Txn) (x : Nat × Option Int) (b : Bool) :
    (txnIds { t with pUpdate := t.pUpdate ++ [x], pendingOrders := b }).Perm (x.1 :: txnIds t) :=
  ((perm_append_snoc (t.pPlace ++ t.pCancel) t.pUpdate x).append_right t.pReplace).map fun y : Nat × Option Int => y.1

theorem txnIds_replace (t : Txn) (x : Nat × Option Int) (b : Bool) :
    (txnIds { t with pReplace := t.pReplace ++ [x], pendingOrders := b }).Perm (x.1 :: txnIds t) :=
  (perm_append_snoc (t.pPlace ++ t.pCancel ++ t.pUpdate) t.pReplace x).map fun y : Nat × Option Int => y.1

end Flumine.Fl
