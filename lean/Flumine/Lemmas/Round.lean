/- Lemmas/Round.lean — `absR` is the absolute value; `roundHalfEven` by its specification `IsRoundHalfEven`,
   from which the error bounds of `roundHalfEven` / `round2` and every other rounding fact follow. -/
import Flumine.Num
import Mathlib.Tactic.Linarith
import Mathlib.Tactic.Ring
import Mathlib.Tactic.SplitIfs
namespace Flumine

theorem absR_eq_abs (a : Rat) : absR a = |a| := by
  unfold absR
  split_ifs with h
  · exact (abs_of_neg h).symm
  · exact (abs_of_nonneg (not_lt.mp h)).symm

theorem absR_le_iff (a c : Rat) : absR a ≤ c ↔ (-c ≤ a ∧ a ≤ c) := by
  rw [absR_eq_abs]; exact abs_le

theorem absR_nonneg (a : Rat) : 0 ≤ absR a := by
  rw [absR_eq_abs]; exact abs_nonneg a

theorem absR_add_le {a b c d : Rat} (h1 : absR a ≤ c) (h2 : absR b ≤ d) : absR (a + b) ≤ c + d := by
  rw [absR_eq_abs] at *
  exact (abs_add_le a b).trans (add_le_add h1 h2)

theorem absR_sub_le_above {x c t : Rat} (h1 : x ≤ c) (h2 : c ≤ t) : absR (c - x) ≤ absR (t - x) := by
  rw [absR_eq_abs, absR_eq_abs]
  exact abs_le_abs_of_nonneg (sub_nonneg.mpr h1) (sub_le_sub_right h2 x)

theorem absR_sub_le_below {x c t : Rat} (h1 : t ≤ c) (h2 : c ≤ x) : absR (c - x) ≤ absR (t - x) := by
  rw [absR_eq_abs, absR_eq_abs]
  exact abs_le_abs_of_nonpos (sub_nonpos.mpr h2) (sub_le_sub_right h1 x)

theorem absR_mul_pos (d s : Rat) (hs : 0 < s) : absR (d * s) = absR d * s := by
  by_cases hd : d < 0
  · have : d * s < 0 := mul_neg_of_neg_of_pos hd hs
    simp [absR, hd, this]
  · have h0 : 0 ≤ d := not_lt.mp hd
    have : ¬ d * s < 0 := not_lt.mpr (mul_nonneg h0 (le_of_lt hs))
    simp [absR, hd, this]

/-- `r` is `y` rounded half-even: the residual `y - r` lies in `[-1/2, 1/2]`, and `r` is even when the residual is at
    an end of that interval. -/
def IsRoundHalfEven (y : Rat) (r : Int) : Prop :=
  -(1/2) ≤ y - r ∧ y - r ≤ 1/2 ∧ (y - r ≤ -(1/2) ∨ 1/2 ≤ y - r → r % 2 = 0)

namespace IsRoundHalfEven

theorem down {y : Rat} {f : Int} (h1 : 0 ≤ y - f) (h2 : y - f ≤ 1/2) (he : y - f = 1/2 → f % 2 = 0) :
    IsRoundHalfEven y f :=
  ⟨le_trans (by norm_num) h1, h2,
    fun h => h.elim (fun e => absurd (h1.trans e) (by norm_num)) fun e => he (le_antisymm h2 e)⟩

theorem up {y : Rat} {f : Int} (h1 : y - f < 1) (h2 : 1/2 ≤ y - f) (he : y - f = 1/2 → (f + 1) % 2 = 0) :
    IsRoundHalfEven y (f + 1) := by
  have e : y - ↑(f + 1) = (y - f) - 1 := by push_cast; ring
  rw [IsRoundHalfEven, e]
  -- `linarith` is three times dearer with the fraction in sight, and all it needs of `1/2` is `hh`
  have hh : (1/2 : Rat) + 1/2 = 1 := by norm_num
  generalize y - f = d at h1 h2 he ⊢
  generalize (1/2 : Rat) = half at h2 he hh ⊢
  exact ⟨by linarith, by linarith, fun h => h.elim (fun e => he (le_antisymm (by linarith) h2)) fun e => by linarith⟩

theorem neg {y : Rat} {r : Int} (h : IsRoundHalfEven y r) : IsRoundHalfEven (-y) (-r) := by
  obtain ⟨a1, a2, a3⟩ := h
  have e : -y - ↑(-r) = -(y - r) := by push_cast; ring
  rw [IsRoundHalfEven, e]
  refine ⟨neg_le_neg a2, neg_le.mp a1, fun h => ?_⟩
  have := a3 (h.symm.imp le_neg.mp neg_le_neg_iff.mp)
  omega

/-- Rounding is monotone.  If it were not, `s < r` with `r ≤ x + 1/2 ≤ y + 1/2 ≤ s + 1` would make `r` and `s`
    the two ends of one tie, consecutive and both even. -/
theorem mono {x y : Rat} {r s : Int} (hx : IsRoundHalfEven x r) (hy : IsRoundHalfEven y s) (h : x ≤ y) : r ≤ s := by
  obtain ⟨a1, -, a3⟩ := hx
  obtain ⟨-, b2, b3⟩ := hy
  by_contra hlt
  have h3 : ((s + 1 : Int) : Rat) ≤ r := Int.cast_le.mpr (Int.add_one_le_iff.mpr (not_le.mp hlt))
  rw [Int.cast_add, Int.cast_one] at h3
  have hh : (1/2 : Rat) + 1/2 = 1 := by norm_num
  generalize (1/2 : Rat) = half at a1 a3 b2 b3 hh  -- as in `up`
  have h4 : r ≤ s + 1 := Int.cast_le (R := Rat).mp (by rw [Int.cast_add, Int.cast_one]; linarith)
  have := a3 (.inl (by linarith))
  have := b3 (.inr (by linarith))
  omega

theorem unique {y : Rat} {r s : Int} (hr : IsRoundHalfEven y r) (hs : IsRoundHalfEven y s) : r = s :=
  le_antisymm (hr.mono hs le_rfl) (hs.mono hr le_rfl)

end IsRoundHalfEven

theorem roundHalfEven_spec (y : Rat) : IsRoundHalfEven y (roundHalfEven y) := by
  have h1 : 0 ≤ y - y.floor := sub_nonneg.mpr (Rat.floor_le y)
  have h2 : y - y.floor < 1 :=
    sub_lt_iff_lt_add'.mpr ((Rat.lt_floor_add_one y).trans_eq (by rw [Int.cast_add, Int.cast_one]))
  unfold roundHalfEven
  simp only
  split_ifs with a b c
  · exact .down h1 a.le fun e => absurd e a.ne
  · exact .up h2 b.le fun e => absurd e.symm b.ne
  · exact .down h1 (not_lt.mp b) fun _ => c
  · exact .up h2 (not_lt.mp a) fun _ => by omega

theorem roundHalfEven_eq {y : Rat} {r : Int} (h : IsRoundHalfEven y r) : roundHalfEven y = r :=
  (roundHalfEven_spec y).unique h

theorem roundHalfEven_err (y : Rat) : absR ((roundHalfEven y : Rat) - y) ≤ 1 / 2 := by
  obtain ⟨a1, a2, -⟩ := roundHalfEven_spec y
  rw [absR_eq_abs, abs_sub_comm]
  exact abs_le.mpr ⟨a1, a2⟩

theorem round2_err (x : Rat) : absR (round2 x - x) ≤ 1 / 200 := by
  -- the error of `roundHalfEven (x * 100)`, scaled down by 100
  have e : (round2 x - x) * 100 = roundHalfEven (x * 100) - x * 100 := by
    rw [round2, sub_mul, div_mul_cancel₀ _ (by norm_num)]
  have h := roundHalfEven_err (x * 100)
  rw [← e, absR_mul_pos _ _ (by norm_num)] at h
  exact ((le_div_iff₀ (by norm_num)).mpr h).trans_eq (by norm_num)

end Flumine
