/- Lemmas/Calm.lean — `Calm w w'`: the two worlds have the same skeleton.  The invariants of whole runs read of a world the
   ids, statuses, `complete` flags, status logs and markets of its orders (`Order.core`), the ids, blotters and live lists of
   its markets (`Market.core`), the handler queue, the package counter and the ghost counter, and nothing else.  A step that
   leaves these alone is a step of every one of their relations, and which functions of the model do is read off their
   footprints (`Eff.calm`). -/
import Flumine.Lemmas.Ids
namespace Flumine
open World OL Ids

structure Calm (w w' : World) : Prop where
  ord : w'.orders.map Order.core = w.orders.map Order.core
  mks : w'.markets.map Market.core = w.markets.map Market.core
  qu : w'.queue = w.queue
  fg : w'.foreign = w.foreign
  np : w'.nextPackage = w.nextPackage

namespace Calm

theorem refl (w : World) : Calm w w := ⟨rfl, rfl, rfl, rfl, rfl⟩
theorem trans {a b c : World} (h1 : Calm a b) (h2 : Calm b c) : Calm a c :=
  ⟨h2.ord.trans h1.ord, h2.mks.trans h1.mks, h2.qu.trans h1.qu, h2.fg.trans h1.fg, h2.np.trans h1.np⟩

/-- `c` is `Order.core` or `Market.core`, whose first component is the id -/
theorem find_core {α γ} (c : α → Nat × γ) (l l' : List α) (h : l'.map c = l.map c) (m : Nat) :
    (l'.find? (fun x => decide ((c x).1 = m))).map c = (l.find? (fun x => decide ((c x).1 = m))).map c := by
  have := congrArg (List.find? fun y => decide (y.1 = m)) h
  rwa [List.find?_map, List.find?_map] at this

theorem getD_core {α γ} (c : α → Nat × γ) (l l' : List α) (h : l'.map c = l.map c) (m : Nat) (d : α) :
    c ((l'.find? (fun x => decide ((c x).1 = m))).getD d) = c ((l.find? (fun x => decide ((c x).1 = m))).getD d) := by
  rw [← Option.getD_map c, ← Option.getD_map c, find_core c l l' h m]

theorem order!_core {w w' : World} (h : w'.orders.map Order.core = w.orders.map Order.core) (x : Nat) :
    (w'.order! x).core = (w.order! x).core :=
  getD_core Order.core w.orders w'.orders h x default

/-- Said of lookups, not of the table: where nothing is known of the world the table may hold the id twice. -/
theorem order!_setOrder_core (w : World) (a : Nat) (ha : HasOrder w a) (o' : Order) (h : o'.core = (w.order! a).core) (x : Nat) :
    ((w.setOrder o').order! x).core = (w.order! x).core := by
  have hid : o'.id = a := (congrArg Prod.fst h).trans (order!_id w a ha)
  by_cases e : x = a
  · rw [e, order!_setOrder_self w o' hid ha]; exact h
  · rw [order!_setOrder_other w o' hid x e]

variable {w w' : World}

theorem order (h : Calm w w') (x : Nat) : (w'.order! x).core = (w.order! x).core := order!_core h.ord x

theorem status (h : Calm w w') (x : Nat) : (w'.order! x).status = (w.order! x).status := Order.status_of_core (h.order x)
theorem complete (h : Calm w w') (x : Nat) : (w'.order! x).complete = (w.order! x).complete := Order.complete_of_core (h.order x)
theorem log (h : Calm w w') (x : Nat) : (w'.order! x).log = (w.order! x).log := Order.log_of_core (h.order x)
theorem omarket (h : Calm w w') (x : Nat) : (w'.order! x).market = (w.order! x).market := Order.market_of_core (h.order x)

theorem ids (h : Calm w w') : ids w' = ids w := by
  have := congrArg (List.map Prod.fst) h.ord
  rw [List.map_map, List.map_map] at this
  exact this

theorem keeps (h : Calm w w') : Keeps w w' := ⟨[], h.ids.trans (List.append_nil _).symm⟩

theorem hasOrder (h : Calm w w') (x : Nat) : HasOrder w' x ↔ HasOrder w x := hasOrder_of_ids h.ids x

theorem mids (h : Calm w w') : w'.markets.map (·.id) = w.markets.map (·.id) := by
  have := congrArg (List.map Prod.fst) h.mks
  rw [List.map_map, List.map_map] at this
  exact this

theorem mem (h : Calm w w') {m' : Market} (hm' : m' ∈ w'.markets) : ∃ m ∈ w.markets, m'.blotter = m.blotter ∧ m'.live = m.live := by
  have : m'.core ∈ w.markets.map Market.core := h.mks ▸ List.mem_map_of_mem hm'
  obtain ⟨m, hm, e⟩ := List.mem_map.mp this
  exact ⟨m, hm, congrArg (fun c => c.2.1) e.symm, congrArg (fun c => c.2.2) e.symm⟩

theorem market (h : Calm w w') (m : Nat) :
    (w'.market! m).blotter = (w.market! m).blotter ∧ (w'.market! m).live = (w.market! m).live ∧ (w'.market? m).isSome = (w.market? m).isSome := by
  have e : (w'.market! m).core = (w.market! m).core := getD_core Market.core w.markets w'.markets h.mks m default
  have s := congrArg Option.isSome (find_core Market.core w.markets w'.markets h.mks m)
  rw [Option.isSome_map, Option.isSome_map] at s
  exact ⟨congrArg (fun c => c.2.1) e, congrArg (fun c => c.2.2) e, s⟩

theorem modifyMarket (w : World) (a : Nat) (f : Market → Market)
    (hf : ∀ m, (f m).id = m.id ∧ (f m).blotter = m.blotter ∧ (f m).live = m.live) : Calm w (w.modifyMarket a f) :=
  ⟨rfl, map_map_of_keeps _ _ _ fun x => by
    split
    · show ((f x).id, (f x).blotter, (f x).live) = _
      rw [(hf x).1, (hf x).2.1, (hf x).2.2]; rfl
    · rfl, rfl, rfl, rfl⟩

end Calm

abbrev Kind.calm : List Kind := [.order, .trade, .ctx, .market, .mrem, .removals, .client, .betId, .out, .cc, .clock]

theorem Write.calm {k : Kind} {w w' : World} (h : Write k w w') (hk : k ∈ Kind.calm) : Calm w w' := by
  induction h with
  | order w g hg => exact ⟨map_map_of_keeps _ g _ hg, rfl, rfl, rfl, rfl⟩
  | market w g hg => exact ⟨rfl, map_map_of_keeps _ g _ fun x => (hg x).1, rfl, rfl, rfl⟩
  | mrem w g hg => exact ⟨rfl, map_map_of_keeps _ g _ hg, rfl, rfl, rfl⟩
  | trade | ctx | removals | client | betId | out | cc | clock => exact ⟨rfl, rfl, rfl, rfl, rfl⟩
  | setOrder | newOrder | blotter | newMarket | enqueue | dequeue | foreign => exact absurd hk (by decide)

theorem Eff.calm {S : List Kind} {w w' : World} (h : Eff S w w') (hS : Kind.Sub S Kind.calm := by decide) : Calm w w' := by
  induction h with
  | refl => exact Calm.refl _
  | step hk hw _ ih => exact (hw.calm (hS.mem hk)).trans ih

/-- unlike `Eff.calm` this allows blotter and queue writes -/
theorem Eff.cores {S : List Kind} {w w' : World} (h : Eff S w w') (x : Nat) (hS : Kind.Disj S [Kind.setOrder, Kind.newOrder] := by decide) :
    (w'.order! x).core = (w.order! x).core :=
  Calm.order!_core (h.avoid (fun w => w.orders.map Order.core) _ (fun hw hk => by
    induction hw with
    | order w g hg => exact map_map_of_keeps _ g _ hg
    | setOrder | newOrder => exact absurd (by decide) hk
    | _ => rfl) hS) x

end Flumine
