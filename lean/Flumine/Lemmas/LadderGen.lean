/- Lemmas/LadderGen.lean — `make_prices` / `get_nearest_price` over any well-formed cutoff table:
   each band is the grid of its own step between two points of that grid, so rounding `x * step`
   to the nearest integer lands on a tick of the band (or on the first tick of the next one), and
   no tick of the ladder is closer. -/
import Flumine.Ladder
import Flumine.Lemmas.Round
import Mathlib.Tactic.Ring
import Mathlib.Tactic.Linarith
import Mathlib.Tactic.SplitIfs
namespace Flumine.C17

/-! ### rounding to the nearest integer -/

theorem nearest_int_of_err {y : Rat} {r : Int} (h : absR (r - y) ≤ 1/2) (k : Int) :
    absR (r - y) ≤ absR (k - y) := by
  rcases eq_or_ne k r with rfl | hk
  · exact le_rfl
  · simp only [absR_eq_abs] at h ⊢
    -- another integer is at least 1 away from `r`
    have h1 : (1 : Rat) ≤ |(k : Rat) - r| := by exact_mod_cast Int.one_le_abs (sub_ne_zero.mpr hk)
    have h2 := abs_sub_le (k : Rat) y r
    rw [abs_sub_comm y] at h2
    linarith

theorem roundHalfUp_err (y : Rat) : absR ((roundHalfUp y : Rat) - y) ≤ 1/2 := by
  have h : y + 1/2 < (y + 1/2).floor + 1/2 + 1/2 :=
    (Rat.lt_floor_add_one _).trans_eq (by rw [Int.cast_add, Int.cast_one, add_assoc]; norm_num)
  rw [absR_le_iff, roundHalfUp]
  exact ⟨neg_le_sub_iff_le_add.mpr (lt_of_add_lt_add_right h).le, sub_le_iff_le_add'.mpr (Rat.floor_le _)⟩

theorem roundHalfUp_bounds (y : Rat) (a b : Int) (ha : (a : Rat) ≤ y) (hb : y ≤ (b : Rat)) :
    a ≤ roundHalfUp y ∧ roundHalfUp y ≤ b := by
  constructor
  · unfold roundHalfUp; rw [Rat.le_floor_iff]; exact ha.trans (le_add_of_nonneg_right (by norm_num))
  · have : roundHalfUp y < b + 1 := by
      unfold roundHalfUp; rw [Rat.floor_lt_iff]; push_cast; exact add_lt_add_of_le_of_lt hb (by norm_num)
    omega

theorem roundHalfUp_div_nearest {s : Rat} (hs : 0 < s) (x : Rat) (j : Int) :
    absR ((roundHalfUp (x * s) : Rat) / s - x) ≤ absR ((j : Rat) / s - x) := by
  have e (k : Int) : ((k : Rat) / s - x) * s = k - x * s := by rw [sub_mul, div_mul_cancel₀ _ hs.ne']
  have h := nearest_int_of_err (roundHalfUp_err (x * s)) j
  rw [← e, ← e, absR_mul_pos _ s hs, absR_mul_pos _ s hs] at h
  exact le_of_mul_le_mul_right h hs

/-! ### one band -/

theorem mem_arange {c cut incr t : Rat} (hi : 0 < incr) :
    t ∈ arange c cut incr ↔ ∃ i : Nat, t = c + i * incr ∧ t < cut := by
  have key (i : Nat) : i < arangeCount c cut incr ↔ c + i * incr < cut := by
    have h0 : 0 ≤ (i : Rat) * incr := mul_nonneg (Nat.cast_nonneg i) hi.le
    unfold arangeCount
    rw [if_neg (not_le.mpr hi)]
    split_ifs with h
    · exact ⟨fun h' => absurd h' (Nat.not_lt_zero i),
        fun h' => absurd ((le_add_of_nonneg_right h0).trans_lt (h'.trans_le h)) (lt_irrefl c)⟩
    · -- `i < ⌈y⌉ ↔ i < y` with the ceiling written `-⌊-y⌋`
      rw [Int.lt_toNat, lt_neg, Rat.floor_lt_iff]
      push_cast
      rw [neg_lt_neg_iff, lt_div_iff₀ hi, lt_sub_iff_add_lt']
  simp only [arange, List.mem_map, List.mem_range, key]
  exact ⟨fun ⟨i, h, e⟩ => ⟨i, e.symm, e ▸ h⟩, fun ⟨i, e, h⟩ => ⟨i, e ▸ h, e.symm⟩⟩

theorem mem_arange_grid {c cut step t : Rat} {a : Int} (hs : 0 < step) (ha : c * step = a) :
    t ∈ arange c cut (1 / step) ↔ ∃ k : Int, a ≤ k ∧ t = k / step ∧ t < cut := by
  have hc : c = a / step := by rw [← ha, mul_div_cancel_right₀ _ hs.ne']
  rw [mem_arange (one_div_pos.mpr hs)]
  constructor
  · rintro ⟨i, rfl, h⟩
    exact ⟨a + i, by omega, by rw [hc]; push_cast; ring, h⟩
  · rintro ⟨k, hk, rfl, h⟩
    refine ⟨(k - a).toNat, ?_, h⟩
    have : ((k - a).toNat : Rat) = (k : Rat) - a := by
      rw [← Int.cast_natCast, Int.toNat_of_nonneg (by omega)]; push_cast; rfl
    rw [this, hc]; ring

/-! ### well-formed tables -/

/-- A cutoff table continues a ladder from the tick `c`: every row has a positive step with
    `incr = 1 / step`, ends above where it starts, and starts and ends on its own grid. -/
def rowsOk : Rat → List (Rat × Rat × Rat) → Bool
  | _, [] => true
  | c, (cut, step, incr) :: rest =>
      decide (0 < step ∧ incr = 1 / step ∧ c < cut) && (c * step).isInt && (cut * step).isInt
        && rowsOk cut rest

def top : Rat → List (Rat × Rat × Rat) → Rat
  | c, [] => c
  | _, (cut, _, _) :: rest => top cut rest

/-- the ladder `make_prices` builds from the cursor `c`, closed by the table's own last cutoff -/
def ladder (c : Rat) (rows : List (Rat × Rat × Rat)) : List Rat := makePrices c (top c rows) rows

theorem ladder_nil (c : Rat) : ladder c [] = [c] := rfl

theorem ladder_cons (c cut step incr : Rat) (rest : List (Rat × Rat × Rat)) :
    ladder c ((cut, step, incr) :: rest) = arange c cut incr ++ ladder cut rest :=
  List.append_assoc ..

theorem rowsOk_cons {c cut step incr : Rat} {rest : List (Rat × Rat × Rat)}
    (h : rowsOk c ((cut, step, incr) :: rest) = true) :
    0 < step ∧ incr = 1 / step ∧ c < cut ∧ (∃ a : Int, c * step = a) ∧ (∃ b : Int, cut * step = b) ∧
      rowsOk cut rest = true := by
  simp only [rowsOk, Rat.isInt, Bool.and_eq_true, decide_eq_true_eq, beq_iff_eq] at h
  obtain ⟨⟨⟨⟨h1, h2, h3⟩, h4⟩, h5⟩, h6⟩ := h
  exact ⟨h1, h2, h3, ⟨_, (Rat.coe_int_num_of_den_eq_one h4).symm⟩,
    ⟨_, (Rat.coe_int_num_of_den_eq_one h5).symm⟩, h6⟩

theorem ladder_bounds : ∀ (rows : List (Rat × Rat × Rat)) (c : Rat), rowsOk c rows = true →
    c ∈ ladder c rows ∧ ∀ t ∈ ladder c rows, c ≤ t ∧ t ≤ top c rows
  | [], c, _ => by simp [ladder_nil, top]
  | (cut, step, incr) :: rest, c, h => by
    obtain ⟨hs, rfl, hlt, -, -, hr⟩ := rowsOk_cons h
    obtain ⟨hm, hb⟩ := ladder_bounds rest cut hr
    have hi := one_div_pos.mpr hs
    rw [ladder_cons]
    refine ⟨List.mem_append_left _ ((mem_arange hi).mpr ⟨0, by simp, hlt⟩), fun t ht => ?_⟩
    rcases List.mem_append.mp ht with ht | ht
    · obtain ⟨i, rfl, h2⟩ := (mem_arange hi).mp ht
      exact ⟨le_add_of_nonneg_right (mul_nonneg (Nat.cast_nonneg i) hi.le), h2.le.trans (hb cut hm).2⟩
    · exact ⟨hlt.le.trans (hb t ht).1, (hb t ht).2⟩

theorem ladder_sorted : ∀ (rows : List (Rat × Rat × Rat)) (c : Rat), rowsOk c rows = true →
    (ladder c rows).Pairwise (· < ·)
  | [], c, _ => by simp [ladder_nil]
  | (cut, step, incr) :: rest, c, h => by
    obtain ⟨hs, rfl, -, -, -, hr⟩ := rowsOk_cons h
    have hi := one_div_pos.mpr hs
    rw [ladder_cons, List.pairwise_append]
    refine ⟨List.pairwise_lt_range.map _ fun i j hij => ?_, ladder_sorted rest cut hr, fun t ht u hu => ?_⟩
    · exact (add_lt_add_iff_left c).mpr (mul_lt_mul_of_pos_right (Nat.cast_lt.mpr hij) hi)
    · obtain ⟨i, -, h⟩ := (mem_arange hi).mp ht
      exact lt_of_lt_of_le h ((ladder_bounds rest cut hr).2 u hu).1

/-! ### nearest price -/

/-- The search loop and the rounding of `get_nearest_price` for `x` between the cursor and the last cutoff.
    `last` (the step kept from the row before) only matters when the table is exhausted, i.e. for `x = c`. -/
theorem nearest_aux (x : Rat) : ∀ (rows : List (Rat × Rat × Rat)) (c last : Rat),
    rowsOk c rows = true → c ≤ x → x ≤ top c rows → (rows = [] → 0 < last ∧ ∃ a : Int, c * last = a) →
    (roundHalfUp (x * findStep x rows last) : Rat) / findStep x rows last ∈ ladder c rows ∧
      ∀ t ∈ ladder c rows,
        absR ((roundHalfUp (x * findStep x rows last) : Rat) / findStep x rows last - x) ≤ absR (t - x)
  | [], c, last, _, h1, h2, hl => by
    obtain ⟨hp, a, ha⟩ := hl rfl
    obtain rfl : x = c := le_antisymm h2 h1
    have hk : roundHalfUp (x * last) = a := by
      have := roundHalfUp_bounds (x * last) a a ha.ge ha.le; omega
    have : (roundHalfUp (x * last) : Rat) / last = x := by
      rw [hk, ← ha, mul_div_cancel_right₀ _ hp.ne']
    simp [ladder_nil, findStep, this]
  | (cut, step, incr) :: rest, c, last, h, h1, h2, _ => by
    obtain ⟨hs, rfl, hlt, ⟨a, ha⟩, ⟨b, hb⟩, hr⟩ := rowsOk_cons h
    obtain ⟨hm, hbd⟩ := ladder_bounds rest cut hr
    have hcut : cut = b / step := by rw [← hb, mul_div_cancel_right₀ _ hs.ne']
    rw [ladder_cons]
    by_cases hx : x < cut
    · -- `x` in this band: `k = roundHalfUp (x * step)` lies in `[a, b]`
      simp only [findStep, if_pos hx]
      obtain ⟨hak, hkb⟩ := roundHalfUp_bounds (x * step) a b
        (ha ▸ mul_le_mul_of_nonneg_right h1 hs.le) (hb ▸ mul_le_mul_of_nonneg_right hx.le hs.le)
      have hnear := roundHalfUp_div_nearest hs x
      constructor
      · rcases hkb.lt_or_eq with hk | hk
        · refine List.mem_append_left _ ((mem_arange_grid hs ha).mpr ⟨_, hak, rfl, ?_⟩)
          rw [hcut]; exact div_lt_div_of_pos_right (by exact_mod_cast hk) hs
        · rw [hk, ← hcut]; exact List.mem_append_right _ hm
      · intro t ht
        rcases List.mem_append.mp ht with ht | ht
        · obtain ⟨j, -, rfl, -⟩ := (mem_arange_grid hs ha).mp ht
          exact hnear j
        · -- a later tick is at or above `cut = b / step`, itself a grid point
          refine le_trans (hnear b) ?_
          rw [← hcut]; exact absR_sub_le_above hx.le (hbd t ht).1
    · -- `x` beyond this band: the rest of the table answers, and `cut` is one of its ticks
      have hx := not_lt.mp hx
      simp only [findStep, if_neg (not_lt.mpr hx)]
      obtain ⟨ih1, ih2⟩ := nearest_aux x rest cut step hr hx h2 fun _ => ⟨hs, b, hb⟩
      refine ⟨List.mem_append_right _ ih1, fun t ht => ?_⟩
      rcases List.mem_append.mp ht with ht | ht
      · obtain ⟨-, -, -, hlt⟩ := (mem_arange_grid hs ha).mp ht
        exact le_trans (ih2 cut hm) (absR_sub_le_below hlt.le hx)
      · exact ih2 t ht

/-- C17.2 for any well-formed cutoff table that ends at `maxPrice`. -/
theorem nearest_general {rows : List (Rat × Rat × Rat)} (hok : rowsOk Gen.minPrice rows = true)
    (htop : top Gen.minPrice rows = Gen.maxPrice) (x : Rat) :
    nearestPrice x rows ∈ makePrices Gen.minPrice Gen.maxPrice rows ∧
      ∀ t ∈ makePrices Gen.minPrice Gen.maxPrice rows, absR (nearestPrice x rows - x) ≤ absR (t - x) := by
  obtain ⟨hm, hb⟩ := ladder_bounds rows _ hok
  unfold nearestPrice
  rw [← htop] at *
  split_ifs with h0 h1
  · exact ⟨hm, fun t ht => absR_sub_le_above h0 (hb t ht).1⟩
  · exact ⟨by simp [makePrices], fun t ht => absR_sub_le_below (hb t ht).2 h1.le⟩
  · exact nearest_aux x rows _ 1 hok (not_le.mp h0).le (not_lt.mp h1)
      fun e => absurd (not_lt.mp h1) (by simpa [e, top] using h0)

end Flumine.C17
