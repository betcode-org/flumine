/- Lemmas/Closed.lean — what one update does to the markets the framework knows and to the closed-market callbacks observed so
   far, as a function of the update alone (nothing else writes the two, nor the strategy list: `Frame.lean`). -/
import Flumine.Lemmas.Frame
namespace Flumine.Closed
open Flumine.World

/-- the callbacks a closing update owes: one per strategy subscribed to the book's stream (or with an empty filter), in
    registration order, with the book's publish time -/
def callbacksFor (ss : List Strategy) (mid : Nat) (book : Book) : List Ev :=
  (ss.filter fun s => s.streams.contains book.streamId || s.emptyFilter).map fun s => Ev.closedCallback s.id mid book.pt

theorem closeCallbacks_eq (w : World) (mid : Nat) (book : Book) : w.closeCallbacks mid book = callbacksFor w.strategies mid book := rfl

/-- the specification of a run, as seen from outside: (markets known so far, callbacks observed so far) -/
def specStep (ss : List Strategy) (st : List Nat × List Ev) (u : Nat × Book × (Nat → List Action)) : List Nat × List Ev :=
  if u.2.1.status = .closed then (st.1, st.2 ++ (if u.1 ∈ st.1 then callbacksFor ss u.1 u.2.1 else []))
  else (if u.1 ∈ st.1 then st.1 else st.1 ++ [u.1], st.2)

theorem processMarketBook_spec (w : World) (mid : Nat) (book : Book) (script : Nat → List Action) :
    ((w.processMarketBook mid book script).1.mids, (w.processMarketBook mid book script).1.cc) =
      specStep w.strategies (w.mids, w.cc) (mid, book, script) := by
  -- the due packages touch neither projection, nor the strategies
  obtain ⟨w1, h1, ⟨hc, e⟩ | ⟨hc, h4⟩⟩ := processMarketBook_cases w mid book script
  · rw [e, specStep, if_pos hc, ← h1.mids, ← h1.cc, ← h1.strategies, (eff_processCloseMarket ..).mids, Cc.processCloseMarket_cc,
      closeCallbacks_eq]
    simp only [Mids.market?_isSome_iff]
  · rw [specStep, if_neg hc, h4.mids, h4.cc, (eff_settle _ mid).mids, (eff_settle _ mid).cc, (eff_receive w1 mid book).cc,
      Mids.receive_mids, h1.mids, h1.cc]

theorem runUpdates_spec (w : World) (us : List (Nat × Book × (Nat → List Action))) :
    ((Inv.runUpdates w us).mids, (Inv.runUpdates w us).cc) = us.foldl (specStep w.strategies) (w.mids, w.cc) := by
  unfold Inv.runUpdates
  induction us generalizing w with
  | nil => rfl
  | cons u rest ih =>
    rw [List.foldl_cons, List.foldl_cons, ih, (eff_processMarketBook ..).strategies, processMarketBook_spec]

end Flumine.Closed
