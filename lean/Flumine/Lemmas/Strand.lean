/- Lemmas/Strand.lean — no order is left in an in-flight status without an outstanding operation.

   The converse of `Lemmas/Flight.lean`: in every reachable state (of a run whose requests go through the order's own
   market) an order that is PENDING / CANCELLING / UPDATING / REPLACING is listed in the pending list of the open
   transaction or in a package of the handler queue - exactly once by `Fl.FI` - and executing that package
   settles it (`Settle.package_settles`). -/
import Flumine.Lemmas.Flight
import Flumine.Lemmas.Settle
namespace Flumine.Strand
open Flumine.World Flumine.OL Flumine.Ids Flumine.Inv Flumine.Fin Flumine.Fl Flumine.Settle
open Flumine.Rules (Carried Acted Accepts)

/-! ### the replacement order a replace creates ends EXECUTABLE or EXECUTION_COMPLETE -/

/-- the statuses a response handler leaves an order in: released to the strategy again, or finished -/
def St2 (s : Option Status) : Prop := s = some .executable ∨ s = some .executionComplete

theorem replaceRest_new (p : Package) (w : World) (o : Order) (a : Nat) (book : Book) (np : Option Rat) (sc : Rat) (ha : HasOrder w a) (hI : Inv.Inv w) :
    ids (replaceRest p w o a book np sc) = ids w ++ [w.orders.length] ∧ St2 (St (replaceRest p w o a book np sc) w.orders.length) := by
  obtain ⟨w3, c3, h⟩ := replaceRest_cases p w o a book np sc hI
  have h2 := createReplacement_appended w a (np.getD 0) sc p.created
  -- in either case the replacement order is the only new one: the release and the trade's exit create none
  have hids : ∀ (v : World) (x : Nat), ids v = ids w3 → ids ((v.orderExecutable x).tradeExit o.trade) = ids w ++ [w.orders.length] :=
    fun v x h => ((((eff_orderExecutable v x).trans (eff_tradeExit _ _) (T := lifecycle)).ids.trans h).trans c3.ids).trans h2.ids
  have hr3 : HasOrder w3 w.orders.length := (c3.hasOrder _).mpr h2.has
  rcases h with ⟨t, e⟩ | e <;> rw [e]
  · -- filed (PENDING), then released
    have e4 := eff_filePlacement w3 t w.orders.length none false
    have s4 := filePlacement_self w3 t w.orders.length none false hr3
    refine ⟨hids _ _ e4.ids, Or.inl ?_⟩
    unfold St
    rw [order!_congr _ _ (tradeExit_orders _ _), executable_self _ _ ((e4.hasOrder _).mpr hr3), s4.2]
    rfl
  · -- refused: completed at once; releasing the replaced order does not touch it
    have e4 := eff_orderExecutionComplete w3 w.orders.length
    have ha4 : HasOrder (w3.orderExecutionComplete w.orders.length) a :=
      (e4.hasOrder a).mpr ((c3.hasOrder a).mpr (h2.keeps.hasOrder a ha))
    have hne : w.orders.length ≠ a := fun e => not_hasOrder_len w w hI (Keeps.refl w) (e ▸ ha)
    refine ⟨hids _ _ e4.ids, Or.inr ?_⟩
    unfold St
    rw [order!_congr _ _ (tradeExit_orders _ _), (frx_orderExecutable _ [a] _ a (mine_self ha4)).2 _
      (fun hm => hne (List.mem_singleton.mp hm)) ((e4.hasOrder _).mpr hr3) |>.1, executionComplete_self w3 _ hr3]
    rfl

theorem replacePlace_new (p : Package) (w : World) (o : Order) (a : Nat) (book : Book) (np : Option Rat) (sc : Rat) (failed : Nat)
    (ha : HasOrder w a) (hI : Inv.Inv w) :
    ∀ x, ¬ HasOrder w x → HasOrder (replacePlace p w o a book np sc failed).1 x → St2 (St (replacePlace p w o a book np sc failed).1 x) := by
  rw [replacePlace_fst]
  have e1 := (eff_orderExecutionComplete w a).trans (eff_bumpBetId _) (T := .betId :: lifecycle)
  have g1 : Good w (w.orderExecutionComplete a).bumpBetId := (good_orderExecutionComplete w a).trans (eff_bumpBetId _).calm.good
  obtain ⟨h1, h2⟩ := replaceRest_new p _ o a book np sc ((e1.hasOrder a).mpr ha) (g1.2 hI)
  intro x hx hx'
  rw [eq_of_new (e1.ids ▸ h1) hx hx']; exact h2

def NS (w w' : World) : Prop := ∀ x, ¬ HasOrder w x → HasOrder w' x → St2 (St w' x)

theorem NS.of_ids {w w' : World} (h : ids w' = ids w) : NS w w' := fun x hx hx' => absurd ((hasOrder_of_ids h x).mp hx') hx

theorem st2_same {x : Nat} {w w' : World} (h : Same x w w') (hs : St2 (St w x)) : St2 (St w' x) := by
  unfold St2 St at hs ⊢; rw [h.1]; exact hs

theorem ns_replaceStep (p : Package) (acc : World × Nat) (pr : Nat × Option Rat) (ha : HasOrder acc.1 pr.1) (hI : Inv.Inv acc.1) :
    NS acc.1 (replaceStep p acc pr).1 := by
  obtain ⟨w2, h2, e | ⟨book, sc, e⟩⟩ := replaceStep_cases p acc pr <;> rw [e]
  · exact NS.of_ids (((eff_orderExecutable w2 pr.1).trans (eff_tradeExit _ _) (T := lifecycle)).ids.trans h2.ids)
  · intro x hx hx'
    rw [← replacePlace_fst p w2 _ pr.1 book pr.2 sc 0] at hx' ⊢
    exact replacePlace_new p w2 _ pr.1 book pr.2 sc 0 ((h2.hasOrder _).mpr ha) (h2.calm.good.2 hI) x (fun h => hx ((h2.hasOrder x).mp h)) hx'

/-- a fold of steps, each of which only touches the orders `keys a` (all of them orders of the base world w0) and orders it
    creates itself: what the fold creates is settled at the end -/
theorem ns_fold {σ α} (wof : σ → World) (keys : α → List Nat) (f : σ → α → σ) (P : World → Prop) (w0 : World)
    (hns : ∀ s a, (∀ k ∈ keys a, HasOrder (wof s) k) → P (wof s) → NS (wof s) (wof (f s a)))
    (hfr : ∀ s a, (∀ k ∈ keys a, HasOrder (wof s) k) → P (wof s) → ∀ x, HasOrder (wof s) x → x ∉ keys a → Same x (wof s) (wof (f s a)))
    (hkp : ∀ s a, (∀ k ∈ keys a, HasOrder (wof s) k) → P (wof s) → Keeps (wof s) (wof (f s a)))
    (hP : ∀ s a, (∀ k ∈ keys a, HasOrder (wof s) k) → P (wof s) → P (wof (f s a)))
    (l : List α) (s : σ) (hw : P (wof s)) (hl : ∀ a ∈ l, ∀ k ∈ keys a, HasOrder w0 k) (hk0 : Keeps w0 (wof s))
    (h0 : NS w0 (wof s)) : NS w0 (wof (l.foldl f s)) := by
  induction l generalizing s with
  | nil => exact h0
  | cons b rest ih =>
    rw [List.foldl_cons]
    have hb : ∀ k ∈ keys b, HasOrder (wof s) k := fun k hk => hk0.hasOrder k (hl b List.mem_cons_self k hk)
    refine ih (f s b) (hP s b hb hw) (fun a ha => hl a (List.mem_cons_of_mem _ ha)) (hk0.trans (hkp s b hb hw)) ?_
    intro x hx hx'
    by_cases hxs : HasOrder (wof s) x
    · have hnk : x ∉ keys b := fun hk => hx (hl b List.mem_cons_self x hk)
      exact st2_same (hfr s b hb hw x hxs hnk) (h0 x hx hxs)
    · exact hns s b hb hw x hxs hx'

theorem NS.congr {w w' w'' : World} (h : NS w w') (ho : w''.orders = w'.orders) : NS w w'' := by
  intro x hx hx'
  have := h x hx ((hasOrder_congr w' w'' ho x).mp hx')
  unfold St2 St at this ⊢
  rw [order!_congr w' w'' ho x]; exact this

theorem ns_executePackage (w : World) (p : Package) (hI : Inv.Inv w) (hp : ∀ oid ∈ p.orders, HasOrder w oid) : NS w (w.executePackage p) := by
  have hpo : ∀ oid ∈ w.packageOrders p, HasOrder w oid := fun oid h => hp oid (List.mem_filter.mp h).1
  refine NS.congr ?_ (eff_chargeHandler w p).orders
  unfold handlerLoop
  cases p.kind with
  | place => exact NS.of_ids (eff_placeLoop w p _).ids
  | cancel => exact NS.of_ids (eff_cancelLoop p _ (w, 0)).ids
  | update => exact NS.of_ids (eff_updateLoop p _ (w, 0)).ids
  | replace =>
    refine ns_fold (σ := World × Nat) Prod.fst (fun (a : Nat × Option Rat) => [a.1]) (replaceStep p) Inv.Inv w
      (fun s a hk hi => ns_replaceStep p s a (hk a.1 (List.mem_singleton.mpr rfl)) hi)
      (fun s a hk hi x hx hnk => (fr_replaceStep p s a (hk a.1 (List.mem_singleton.mpr rfl)) hi).2 x
        (fun e => hnk (List.mem_singleton.mpr e)) hx)
      (fun s a _ _ => (eff_replaceStep p s a).keeps)
      (fun s a _ hi => (good_replaceStep p s a).2 hi) _ (w, 0) hI (fun a ha k hk => ?_) (Ids.Keeps.refl w) (NS.of_ids rfl)
    obtain ⟨oid, ho, rfl⟩ := List.mem_map.mp ha
    rw [List.mem_singleton.mp hk]
    exact hpo oid (List.mem_filter.mp ho).1

theorem ns_execAll (l : List Package) (w : World) (hI : Inv.Inv w) (hl : ∀ p ∈ l, ∀ oid ∈ p.orders, HasOrder w oid) :
    NS w (l.foldl (fun w p => w.executePackage p) w) :=
  ns_fold (σ := World) id (fun (p : Package) => p.orders) (fun w p => w.executePackage p) Inv.Inv w
    (fun s p hk hi => ns_executePackage s p hi hk)
    (fun s p hk hi x hx hnk => same_executePackage s p hi hk x hx hnk)
    (fun s p _ _ => (eff_executePackage s p).keeps)
    (fun s p _ hi => (good_executePackage s p).2 hi) l w hI hl (Ids.Keeps.refl w) (NS.of_ids rfl)

/-! ### the due packages, executed one after the other, settle every order they list -/

theorem settled_execAll (l : List Package) (w : World) (hI : Inv.Inv w) (hl : ∀ p ∈ l, ∀ oid ∈ p.orders, HasOrder w oid)
    (hnd : (l.flatMap (·.orders)).Nodup) :
    ∀ p ∈ l, ∀ oid ∈ p.orders, (w.order! oid).status ≠ some .violation →
      Settled ((l.foldl (fun w p => w.executePackage p) w).order! oid) := by
  induction l generalizing w with
  | nil => intro p hp; cases hp
  | cons q qs ih =>
    rw [List.flatMap_cons, List.nodup_append] at hnd
    obtain ⟨_, hnd2, hdisj⟩ := hnd
    have g := good_executePackage w q
    have hl' : ∀ p ∈ qs, ∀ oid ∈ p.orders, HasOrder (w.executePackage q) oid :=
      fun p hp oid ho => g.1.hasOrder oid (hl p (List.mem_cons_of_mem _ hp) oid ho)
    intro p hp oid ho hv
    rw [List.foldl_cons]
    rcases List.mem_cons.mp hp with e | e
    · subst e
      -- settled by its own package, untouched by the others
      have h1 : Settled ((w.executePackage p).order! oid) :=
        Settle.package_settles w p hI (hl p List.mem_cons_self) oid (List.mem_filter.mpr ⟨ho, by simpa using hv⟩)
      have hfr := same_execAll qs (w.executePackage p) (g.2 hI) hl' oid (g.1.hasOrder oid (hl p List.mem_cons_self oid ho))
        (fun r hr hin => hdisj oid ho oid (List.mem_flatMap.mpr ⟨r, hr, hin⟩) rfl)
      exact settled_same hfr h1
    · have hnq : oid ∉ q.orders := fun hin => hdisj oid hin oid (List.mem_flatMap.mpr ⟨p, e, ho⟩) rfl
      have hs := same_executePackage w q hI (hl q List.mem_cons_self) oid (hl p hp oid ho) hnq
      exact ih (w.executePackage q) (g.2 hI) hl' hnd2 p e oid ho (by rw [hs.1]; exact hv)

/-! ### the invariant: an order in flight has an outstanding operation -/

/-- in flight: a placement, cancel, update or replace of the order has been accepted and no response has been handled yet -/
def InFl (s : Option Status) : Prop := s = some .pending ∨ s = some .cancelling ∨ s = some .updating ∨ s = some .replacing

theorem St2.not_inFl {s : Option Status} (h : St2 s) : ¬ InFl s := by
  rcases h with rfl | rfl <;> rintro (h | h | h | h) <;> cases h

theorem _root_.Flumine.Fl.Unsent.not_inFl {s : Option Status} (h : Unsent s) : ¬ InFl s := by
  rcases h with rfl | rfl <;> rintro (h | h | h | h) <;> cases h

theorem moves_inFl {X : List Nat} {oid : Nat} {s s' : Option Status} (h : Moves X oid s s') (hf : InFl s') : s' = s := by
  rcases h with e | e | ⟨_, e⟩ | ⟨_, e⟩
  · exact e
  · exact absurd hf (St2.not_inFl (Or.inr e))
  · exact absurd hf (St2.not_inFl (Or.inl e))
  · exact absurd hf (Unsent.not_inFl (Or.inr e))

theorem inFl_not_complete {s : Status} (h : InFl (some s)) : statusComplete s = false := by
  rcases h with e | e | e | e <;> (cases (Option.some.inj e); decide)

theorem inFl_not_settled {w : World} {oid : Nat} {M : Nat} (hB : BI M w) (hb : oid ∈ (w.market! M).blotter)
    (hs : Settled (w.order! oid)) (hf : InFl (St w oid)) : False := by
  rcases hs with e | e | e
  · exact St2.not_inFl (Or.inl e) hf
  · exact St2.not_inFl (Or.inr e) hf
  · unfold St at hf
    cases hst : (w.order! oid).status with
    | none => exact Unsent.not_inFl (Or.inl hst) hf
    | some s =>
      have := (hB.sent oid hb).2 s hst
      rw [e, inFl_not_complete (hst ▸ hf)] at this
      cases this

/-- package ids are distinct and below the counter (`_check_pending_packages` removes what it executed by identity) -/
def PK (w : World) : Prop := (w.queue.map (·.id)).Nodup ∧ ∀ p ∈ w.queue, p.id < w.nextPackage

/-- nothing is stranded: `cv` an order in flight has an outstanding operation - it is on the pending list of the open
    transaction `b` or in a queued package, so a handler will come for it.  Carried with it: `pk` the package ids, `fl` the pending
    flag is set whenever a request waits in the open transaction (so leaving the block sends it), `bi` the blotter invariant of
    every market, `ex` the transaction lists existing orders -/
structure CV (w : World) (b : Option Txn) : Prop where
  cv : ∀ oid, HasOrder w oid → InFl (St w oid) → oid ∈ pendIds w b
  pk : PK w
  fl : ∀ t, b = some t → txnIds t ≠ [] → t.pendingOrders = true
  bi : ∀ M, BI M w
  ex : BOk w b

theorem cv_calm {w w' : World} {b : Option Txn} (h : Q w [] w w') (hsi : ids w' = ids w)
    (hn : w'.nextPackage = w.nextPackage) (hfs : ∀ M, FS M w w') (c : CV w b) : CV w' b := by
  refine ⟨?_, ?_, c.fl, fun M => ((hfs M).2 (c.bi M)).1, c.ex.keeps h.good.1⟩
  · intro oid ho hf
    have how := (hasOrder_of_ids hsi oid).mp ho
    have := moves_inFl (h.fr oid how how) hf
    rw [pendIds_congr h.qu]
    exact c.cv oid how (by rw [← this]; exact hf)
  · unfold PK; rw [h.qu, hn]; exact c.pk

/-- The pass over the due packages (the selection `sel` of the queue; `r` says which packages stay, every package that was not due
    among them).  An order in flight afterwards is not new (`hns`) and was in flight before (`Moves` leads to no in-flight
    status), so a queued package lists it; that package was not due, or the order would be settled (`hsett`): it still waits. -/
theorem cv_dequeue {w w1 : World} (sel r : Package → Bool) (hstay : ∀ p ∈ w.queue, sel p ≠ true → r p = true) (f : FI w none) (c : CV w none)
    (k : Q w ((w.queue.filter sel).flatMap (·.orders)) w w1) (hns : NS w w1)
    (hsett : ∀ p ∈ w.queue.filter sel, ∀ oid ∈ p.orders, (w.order! oid).status ≠ some .violation → Settled (w1.order! oid))
    (hbi2 : ∀ M, BI M { w1 with queue := w1.queue.filter r }) (hnp : w1.nextPackage = w.nextPackage) :
    CV { w1 with queue := w1.queue.filter r } none := by
  refine ⟨fun oid ho hf => ?_, ⟨?_, fun p hp => ?_⟩, (fun t ht => by cases ht), hbi2, BOk.none _⟩
  · have ho1 : HasOrder w1 oid := ho
    have hf1 : InFl (St w1 oid) := hf
    by_cases how : HasOrder w oid
    · have hfw : InFl (St w oid) := moves_inFl (k.fr oid how how) hf1 ▸ hf1
      have hin := c.cv oid how hfw
      rw [pendIds_none] at hin
      obtain ⟨p, hp, hop⟩ := mem_queueIds.mp hin
      by_cases hsel : sel p = true
      · exfalso
        have hnv : (w.order! oid).status ≠ some .violation := fun e => Unsent.not_inFl (Or.inr e) hfw
        have hh : Home w1 oid := k.home oid how (f.hm oid (pendIds_none w ▸ hin))
        exact inFl_not_settled (w := { w1 with queue := w1.queue.filter r }) (hbi2 ((w1.order! oid).market)) hh
          (hsett p (List.mem_filter.mpr ⟨hp, hsel⟩) oid hop hnv) hf1
      · show oid ∈ (w1.queue.filter r).flatMap (·.orders) ++ []
        rw [List.append_nil, k.qu]
        exact List.mem_flatMap.mpr ⟨p, List.mem_filter.mpr ⟨hp, hstay p hp hsel⟩, hop⟩
    · exact absurd hf1 (St2.not_inFl (hns oid how ho1))
  · show ((w1.queue.filter r).map (·.id)).Nodup
    rw [k.qu]
    exact (List.Sublist.map _ List.filter_sublist).nodup c.pk.1
  · show p.id < w1.nextPackage
    rw [hnp]
    exact c.pk.2 p (k.qu ▸ (List.mem_filter.mp hp).1)

/-- `_check_pending_packages` removes what it executed by package id, and package ids are distinct: what was not due stays -/
theorem cv_checkPendingPackages (w : World) (mid : Nat) (f : FI w none) (c : CV w none) : CV (w.checkPendingPackages mid) none := by
  have hlo : ∀ p ∈ w.queue, ∀ oid ∈ p.orders, HasOrder w oid := fun p hp oid ho =>
    f.ex oid (mem_pendIds_of_queued hp ho none)
  refine cv_dequeue _ _ (fun p hp hsel => ?_) f c (q_execDue f _) (ns_execAll _ w f.inv fun p hp => hlo p (List.mem_filter.mp hp).1)
    (settled_execAll _ w f.inv (fun p hp => hlo p (List.mem_filter.mp hp).1)
      ((sublist_flatMap_filter w.queue (·.orders) _).nodup (show (queueIds w).Nodup from pendIds_none w ▸ f.nd)))
    (fun M => ((fs_checkPendingPackages M w mid).2 (c.bi M)).1) (eff_checkPendingPackages w mid).nextPackage
  simp only [Bool.not_eq_true', List.any_eq_false, decide_eq_true_eq]
  intro q hq e
  rw [eq_of_key_eq (·.id) c.pk.1 (List.mem_filter.mp hq).1 hp e] at hq
  exact hsel (List.mem_filter.mp hq).2

/-! ### requests -/

/-- `a` goes onto the pending list of the open transaction and nothing else changes: whoever was in flight and listed still is -/
theorem cv_listed {w w' : World} {t t' : Txn} {a : Nat} (c : CV w (some t)) (ha : HasOrder w a) (hids : ids w' = ids w)
    (hq : w'.queue = w.queue) (hn : w'.nextPackage = w.nextPackage) (hoth : ∀ oid, oid ≠ a → St w' oid = St w oid)
    (hperm : (txnIds t').Perm (a :: txnIds t)) (hflag : t'.pendingOrders = true) (hbi : ∀ M, BI M w') : CV w' (some t') := by
  refine ⟨fun oid ho hf => ?_, by unfold PK; rw [hq, hn]; exact c.pk, fun t2 ht2 _ => by rw [← Option.some.inj ht2]; exact hflag, hbi,
    (TOk.add c.ex ((hasOrder_iff w a).mp ha) hperm).keeps ⟨[], by rw [hids, List.append_nil]⟩⟩
  by_cases e : oid = a
  · rw [e]; exact List.mem_append_right _ (hperm.mem_iff.mpr List.mem_cons_self)
  · have how := (hasOrder_of_ids hids oid).mp ho
    rw [pendIds_congr hq]
    exact (List.mem_append.mp (c.cv oid how (hoth oid e ▸ hf))).elim (List.mem_append_left _)
      fun h => List.mem_append_right _ (hperm.mem_iff.mpr (List.mem_cons_of_mem _ h))

theorem cv_accepts {w w' : World} {t t' : Txn} (c : CV w (some t)) (a : Nat) (ha : HasOrder w a) (h : Accepts w w' a)
    (hperm : (txnIds t').Perm (a :: txnIds t)) (hflag : t'.pendingOrders = true) : CV w' (some t') :=
  have e := h.eff
  cv_listed c ha e.ids e.queue e.nextPackage (h.st ha).2 hperm hflag fun M => ((fs_accepts M ha h).2 (c.bi M)).1

theorem cv_txnRequest (w : World) (t : Txn) (a : Nat) (force : Bool) (k : PackKind) (op : World → Except ReqErr World) (file : Txn → Txn)
    (c : CV w (some t)) (ha : HasOrder w a) (hop : ∀ w w', op w = .ok w' → Accepts w w' a)
    (hperm : (txnIds (file t)).Perm (a :: txnIds t)) (hflag : (file t).pendingOrders = true) :
    CV (w.txnRequest t a force k op file).1 (some (w.txnRequest t a force k op file).2.1) :=
  txnRequest_cases w t a force k op file (fun w' t' => CV w' (some t')) c fun w1 h1 => by
    have k1 : HasOrder w1 a ∧ CV w1 (some t) := by
      rcases h1 with rfl | rfl
      · exact ⟨ha, c⟩
      · have e := eff_validateControls w a t.client k
        exact ⟨e.keeps.hasOrder a ha,
          cv_calm (q_validateControls w [] w a t.client k ha) e.ids e.nextPackage (fun M => (fsRequests M).validateControls w a t.client k ha) c⟩
    exact ⟨k1.2, fun w2 h2 => cv_accepts k1.2 a k1.1 (hop w1 w2 h2) hperm hflag⟩

theorem cv_filePlacement (w : World) (t : Txn) (a : Nat) (mv : Option Int) (c : CV w (some t)) (ha : HasOrder w a)
    (hbi : ∀ M, BI M (w.filePlacement t a mv true)) :
    CV (w.filePlacement t a mv true) (some { t with pPlace := t.pPlace ++ [(a, mv)], pendingOrders := true }) :=
  have e := eff_filePlacement w t a mv true
  cv_listed c ha e.ids e.queue e.nextPackage (st_filePlacement_other w t a mv true ha) (txnIds_place t (a, mv) true) rfl hbi

theorem cv_txnPlace (w : World) (t : Txn) (a : Nat) (mv : Option Int) (force : Bool) (c : CV w (some t)) (ha : HasOrder w a) :
    CV (w.txnPlace t a mv true force).1 (some (w.txnPlace t a mv true force).2.1) := by
  have e := eff_placeControls w t a true force
  have h1 : HasOrder (w.placeControls t a true force).1 a := e.keeps.hasOrder a ha
  have c1 : CV (w.placeControls t a true force).1 (some t) :=
    cv_calm (q_placeControls w [] w t a true force ha) e.ids e.nextPackage (fun M => (fsRequests M).placeControls w t a true force ha) c
  exact txnPlace_cases w t a mv true force (fun w' t' => CV w' (some t')) c1 fun hn hne =>
    cv_filePlacement _ t a mv c1 h1 fun M => ((fs_filePlacement M _ t a mv true h1 hn hne).2 (c1.bi M)).1

/-! ### packaging -/

theorem pk_addPackage (k : PackKind) (t : Txn) (d bd : Rat) (w : World) (vc : Option Int × List Nat) (h : PK w) : PK (addPackage k t d bd w vc) := by
  refine ⟨?_, fun p hp => ?_⟩
  · -- the new id is the counter, above every id in the queue
    show ((w.queue ++ [_]).map fun q : Package => q.id).Nodup
    rw [List.map_append]
    refine nodup_snoc h.1 fun hx => ?_
    obtain ⟨p, hp, e⟩ := List.mem_map.mp hx
    exact Nat.ne_of_lt (h.2 p hp) e
  · rcases List.mem_append.mp hp with hp | hp
    · exact Nat.lt_succ_of_lt (h.2 p hp)
    · rw [List.mem_singleton.mp hp]; exact Nat.lt_succ_self _

theorem pk_createPackages (w : World) (t : Txn) (pend : List (Nat × Option Int)) (k : PackKind) (h : PK w) : PK (w.createPackages t pend k) :=
  foldl_steps (R := fun w w' => PK w → PK w') (fun _ h => h) (fun h1 h2 h => h2 (h1 h)) (fun w => w) _
    (fun w vc h => pk_addPackage k t _ _ w vc h) _ w h

theorem pk_txnExecute (w : World) (t : Txn) (h : PK w) : PK (w.txnExecute t).1 := by
  rw [txnExecute_fst]
  refine foldl_steps (R := fun w w' => PK w → PK w') (fun _ h => h) (fun h1 h2 h => h2 (h1 h)) (fun w => w) (pack t) (fun w pk h => ?_) _ w h
  unfold pack; split
  · exact h
  · exact pk_createPackages w t pk.1 pk.2 h

theorem cv_txnExecute (w : World) (t : Txn) (c : CV w (some t)) :
    CV (w.txnExecute t).1 (some (w.txnExecute t).2) := by
  have ho := (eff_txnExecute w t).orders
  refine ⟨?_, pk_txnExecute w t c.pk, ?_, fun M => ((fs_txnExecute M w t c.ex).2 (c.bi M)).1, tok_txnExecute w t⟩
  · intro oid hoid hf
    have how := (hasOrder_congr w _ ho oid).mp hoid
    have hfw : InFl (St w oid) := by unfold St at hf ⊢; rw [← order!_congr w _ ho oid]; exact hf
    exact (pendIds_txnExecute w t).mem_iff.mpr (c.cv oid how hfw)
  · intro t2 ht2 hne
    rw [← Option.some.inj ht2] at hne
    exact absurd (txnIds_txnExecute w t) hne

theorem cv_drop {w : World} {t : Txn} (c : CV w (some t)) (ht : txnIds t = []) : CV w none :=
  ⟨fun oid ho hf => pendIds_of_nil w ht ▸ c.cv oid ho hf, c.pk, (fun t2 ht2 => by cases ht2), c.bi, BOk.none w⟩

theorem cv_ofNone {w : World} (c : CV w none) (t : Txn) (ht : txnIds t = []) : CV w (some t) :=
  ⟨fun oid ho hf => pendIds_of_nil w ht ▸ c.cv oid ho hf, c.pk, (fun t2 ht2 hne => by rw [← Option.some.inj ht2] at hne; exact absurd ht hne), c.bi,
    fun x (hx : x ∈ txnIds t) => by rw [ht] at hx; cases hx⟩

theorem cv_txnExit (w : World) (t : Txn) (c : CV w (some t)) : CV (w.txnExit t) none := by
  unfold txnExit
  split
  · exact cv_drop (cv_txnExecute w t c) (txnIds_txnExecute w t)
  · rename_i hp
    exact cv_drop c (Decidable.byContradiction fun e => hp (c.fl t rfl e))

/-- a new order without a status joins the table: nobody new is in flight -/
theorem cv_appendOrder {w w' : World} {b : Option Txn} {o : Order} (a : Appended w o w') (c : CV w b) : CV w' b := by
  refine ⟨fun oid hoid hfl => ?_, by unfold PK; rw [a.queue, a.nextPackage]; exact c.pk, c.fl,
    fun M => ((fs_appendOrder M a).2 (c.bi M)).1, c.ex.keeps a.keeps⟩
  rw [pendIds_congr a.queue]
  unfold St at hfl
  rcases a.cases hoid with ⟨how, e⟩ | ⟨_, e⟩ <;> rw [e] at hfl
  · exact c.cv oid how hfl
  · rw [a.status] at hfl; exact absurd hfl (Unsent.not_inFl (Or.inl rfl))

/-! ### scripted strategy actions -/

theorem cv_doActionCore (w : World) (mid : Nat) (batch : Option Txn) (a : Action) (c : CV w batch) :
    CV (w.doActionCore mid batch a).1 (w.doActionCore mid batch a).2.1 := by
  have hin : ∀ tg : Target, tg.missing w = false → HasOrder w (tg.resolve w) := fun tg hm =>
    (hasOrder_iff w _).mpr (target_mem w tg (c.bi 0).inv hm)
  revert c
  refine Rules.doActionCore (fun w b w' b' => CV w b → CV w' b') (fun _ _ h => h) (fun h1 h2 a => h2 (h1 a)) w mid batch a
    (fun w c hC => cv_ofNone hC _ rfl) (fun w t hC => cv_txnExit w t hC) (fun t hC => cv_txnExecute w t hC) (fun _ _ => cv_appendOrder)
    (fun t tg v force _ hm _ hC => cv_txnPlace w t _ v force hC (hin tg hm))
    (fun t tg force k op file _ hm _ hop hp _ hfl hC => cv_txnRequest w t _ force k op file hC (hin tg hm) hop hp hfl)

theorem cvActed (mid : Nat) : Acted mid (FIm mid) CV :=
  ⟨fun w b a _ _ c => cv_doActionCore w mid b a c, fun w t _ c => cv_txnExit w t c⟩

/-- both invariants (with the market of the callback known, and the open transaction of that market), as the actions of a
    callback carry them -/
theorem fjActed (mid : Nat) : Acted mid (fun _ _ => True) (fun w b => FIm mid w b ∧ CV w b) := (fiActed mid).and (cvActed mid)

/-! ### updates and runs: the invariant `CV`, on top of `FI`, through the stages of an update -/

theorem cv_still {S : List Kind} {w w' : World} (e : Eff S w w') (hq : Q w [] w w') (hfs : ∀ M, FS M w w') (c : CV w none)
    (hS : Kind.Disj S [Kind.newOrder] := by decide) (hS' : Kind.Disj S [Kind.enqueue] := by decide) : CV w' none :=
  cv_calm hq (e.ids hS) (e.nextPackage hS') hfs c

theorem cvCarried : Carried (fun w => FI w none) (fun w => CV w none) where
  calm := fun k _ c => cv_calm (k.q _ _) k.ids k.np k.fs c
  check := fun {w} mid f c => cv_checkPendingPackages w mid f c
  close := fun {w} mid book f c =>
    cv_still (eff_processCloseMarket w mid book) (q_processCloseMarket w [] w mid book f.inv) (fun M => fs_processCloseMarket M w mid book) c
  newMarket := fun {w} _ _ hn f c => cv_calm (q_appendMarket w [] w _ hn rfl rfl) rfl rfl (fun M => fs_appendMarket M w _ hn rfl rfl) c
  mw := fun {w} mid f c =>
    cv_still (eff_simulatedMiddleware w mid) (q_simulatedMiddleware w [] w mid f.inv) (fun M => fs_simulatedMiddleware M w mid) c
  loop := fun {w} mid f c =>
    cv_still (eff_processSimulatedOrders w mid) (q_processSimulatedOrders w [] w mid f.inv) (fun M => fs_processSimulatedOrders M w mid) c
  acts := fun {w} mid as hex hz f c => ((fjActed mid).doActions w as hz ⟨⟨f, hex, nofun⟩, c⟩).2

theorem fcCarried : Carried (fun _ => True) (fun w => FI w none ∧ CV w none) := fiCarried.and cvCarried

theorem cv_empty (cfg : Config) (cl : List Client) (ss : List Strategy) : CV { cfg := cfg, clients := cl, strategies := ss } none := by
  refine ⟨?_, ?_, (fun t ht => by cases ht), fun M => bi_empty M cfg cl ss, BOk.none _⟩
  · exact fun oid h => absurd h (not_hasOrder_of_nil rfl oid)
  · unfold PK; simp

/-- in every world reachable by a run without foreign requests: an order in flight is listed in exactly one queued package -/
theorem strand_reachable (cfg : Config) (cl : List Client) (ss : List Strategy) (us : List (Nat × Book × (Nat → List Action)))
    (hz : (runUpdates { cfg := cfg, clients := cl, strategies := ss } us).foreign = 0) :
    FI (runUpdates { cfg := cfg, clients := cl, strategies := ss } us) none ∧ CV (runUpdates { cfg := cfg, clients := cl, strategies := ss } us) none :=
  (fcCarried.runUpdates _ us).2 hz ⟨fi_empty cfg cl ss, cv_empty cfg cl ss⟩

end Flumine.Strand
