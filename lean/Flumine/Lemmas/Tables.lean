/- Lemmas/Tables.lean — the three keyed tables of the world (orders, markets, clients): a lookup after one row was
   rewritten is the rewritten lookup.  (`hf`, that the edit keeps the key, is an auto-parameter: written as a term
   `fun _ h => h` it is elaborated before `f` is known from the goal and unifies `f` with the identity.  The same happens
   at a call that passes `f` as `_` where the expected type does not fix it first: write `f` out there.) -/
import Flumine.World
import Flumine.Lemmas.ListAux
namespace Flumine.World

theorem order?_modifyOrder (w : World) (a : Nat) (f : Order → Order) (b : Nat)
    (hf : ∀ x, x.id = a → (f x).id = a := by intro _ h; exact h) :
    (w.modifyOrder a f).order? b = (w.order? b).map fun x => if x.id = a then f x else x :=
  find?_map_update Order.id w.orders (fun x => if x.id = a then f x else x)
    (fun x => by
      split
      · rename_i h; rw [hf x h, h]
      · rfl) b

theorem market?_modifyMarket (w : World) (a : Nat) (f : Market → Market) (b : Nat)
    (hf : ∀ x, x.id = a → (f x).id = a := by intro _ h; exact h) :
    (w.modifyMarket a f).market? b = (w.market? b).map fun x => if x.id = a then f x else x :=
  find?_map_update Market.id w.markets (fun x => if x.id = a then f x else x)
    (fun x => by
      split
      · rename_i h; rw [hf x h, h]
      · rfl) b

theorem client?_setClient (w : World) (c : Client) (b : Nat) :
    (w.setClient c).client? b = (w.client? b).map fun x => if x.id = c.id then c else x :=
  find?_map_update Client.id w.clients (fun x => if x.id = c.id then c else x) (fun x => by split <;> simp [*]) b

theorem order?_id {w : World} {b : Nat} {o : Order} (h : w.order? b = some o) : o.id = b := by simpa using List.find?_some h
theorem market?_id {w : World} {b : Nat} {m : Market} (h : w.market? b = some m) : m.id = b := by simpa using List.find?_some h
theorem client?_id {w : World} {b : Nat} {c : Client} (h : w.client? b = some c) : c.id = b := by simpa using List.find?_some h

end Flumine.World
