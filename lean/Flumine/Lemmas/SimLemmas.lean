/- Lemmas/SimLemmas.lean — what the properties of the simulated order share: `ratMin` / `ratMax` are `min` / `max`,
   sums of amounts, the remainder of a limit order after an amount has been moved out of it into one of the other
   size buckets, and what a cancel or an update response leaves of the order. -/
import Flumine.SimOrder
import Flumine.Lemmas.Cents
namespace Flumine

/-! ### `ratMax`, `ratMin` -/

theorem ratMax_eq_max (a b : Rat) : ratMax a b = max a b := by
  unfold ratMax
  split_ifs with h
  · exact (max_eq_right h.le).symm
  · exact (max_eq_left (not_lt.mp h)).symm

theorem ratMin_eq_min (a b : Rat) : ratMin a b = min a b := by
  unfold ratMin
  split_ifs with h
  · exact (min_eq_right h.le).symm
  · exact (min_eq_left (not_lt.mp h)).symm

theorem ratMax_eq_left {a b : Rat} (h : b ≤ a) : ratMax a b = a := ratMax_eq_max a b ▸ max_eq_left h

theorem ratMax_eq_right {a b : Rat} (h : a ≤ b) : ratMax a b = b := ratMax_eq_max a b ▸ max_eq_right h

theorem ratMin_eq_left {a b : Rat} (h : a ≤ b) : ratMin a b = a := ratMin_eq_min a b ▸ min_eq_left h

theorem ratMin_eq_right {a b : Rat} (h : b ≤ a) : ratMin a b = b := ratMin_eq_min a b ▸ min_eq_right h

theorem le_ratMax_left (a b : Rat) : a ≤ ratMax a b := ratMax_eq_max a b ▸ le_max_left a b

theorem le_ratMax_right (a b : Rat) : b ≤ ratMax a b := ratMax_eq_max a b ▸ le_max_right a b

theorem ratMax_le {a b c : Rat} (ha : a ≤ c) (hb : b ≤ c) : ratMax a b ≤ c := ratMax_eq_max a b ▸ max_le ha hb

theorem ratMin_le_left (a b : Rat) : ratMin a b ≤ a := ratMin_eq_min a b ▸ min_le_left a b

theorem ratMin_le_right (a b : Rat) : ratMin a b ≤ b := ratMin_eq_min a b ▸ min_le_right a b

theorem le_ratMin {a b c : Rat} (ha : c ≤ a) (hb : c ≤ b) : c ≤ ratMin a b := ratMin_eq_min a b ▸ le_min ha hb

/-! ### sums -/

theorem sumRat_append (l l' : List Rat) : sumRat (l ++ l') = sumRat l + sumRat l' := by
  induction l with
  | nil => rw [List.nil_append, sumRat, zero_add]
  | cons x xs ih => rw [List.cons_append, sumRat, sumRat, ih, add_assoc]

theorem sumRat_concat (l : List Rat) (x : Rat) : sumRat (l ++ [x]) = sumRat l + x :=
  (sumRat_append l [x]).trans (congrArg _ (add_zero x))

theorem sumRat_nonneg (l : List Rat) (h : ∀ x ∈ l, 0 ≤ x) : 0 ≤ sumRat l := by
  induction l with
  | nil => exact le_refl _
  | cons x xs ih =>
    exact add_nonneg (h x List.mem_cons_self) (ih fun y hy => h y (List.mem_cons_of_mem _ hy))

/-! ### the remainder of a limit order -/

namespace C04
open SimOrder

/-- the un-rounded remainder -/
def rawRem (o : SimOrder) : Rat := o.size - o.sizeMatched - o.sizeCancelled - o.sizeLapsed - o.sizeVoided

theorem remaining_def (o : SimOrder) (hk : o.kind = .limit) : o.sizeRemaining = round2 (rawRem o) := by
  unfold sizeRemaining rawRem; rw [hk]

theorem round2_remaining (o : SimOrder) (hk : o.kind = .limit) : round2 o.sizeRemaining = o.sizeRemaining := by
  rw [remaining_def o hk, round2_idem]

/-- An order `o'` whose buckets are those of `o` with an amount `s` moved out of the remainder into one of the others:
    when `s` is at most what remains of `o`, what remains of `o'` is not negative (rounding is monotone and
    `round2 (x - round2 x) = 0`). -/
theorem remaining_nonneg_of (o o' : SimOrder) (s : Rat) (hk : o.kind = .limit) (hk' : o'.kind = .limit)
    (h : rawRem o' = rawRem o - s) (hs : s ≤ o.sizeRemaining) : 0 ≤ o'.sizeRemaining := by
  rw [remaining_def o hk] at hs
  rw [remaining_def o' hk', h, ← round2_residual (rawRem o)]
  exact round2_mono (by linarith)

theorem remaining_zero_of (o o' : SimOrder) (hk : o.kind = .limit) (hk' : o'.kind = .limit)
    (h : rawRem o' = rawRem o - o.sizeRemaining) : o'.sizeRemaining = 0 := by
  rw [remaining_def o' hk', h, remaining_def o hk]; exact round2_residual _

theorem cancel_remaining_zero (o : SimOrder) (hk : o.kind = .limit) :
    ({ o with sizeCancelled := o.sizeCancelled + o.sizeRemaining } : SimOrder).sizeRemaining = 0 :=
  remaining_zero_of o _ hk hk (by unfold rawRem; ring)

theorem lapse_remaining_zero (o : SimOrder) (hk : o.kind = .limit) :
    ({ o with sizeLapsed := o.sizeLapsed + o.sizeRemaining } : SimOrder).sizeRemaining = 0 :=
  remaining_zero_of o _ hk hk (by unfold rawRem; ring)

end C04

/-! ### what a cancel or an update response leaves of the order -/

namespace SimOrder

theorem cancel_fst (o : SimOrder) (st : MStatus) (red : Option Rat) :
    (o.cancel st red).1 = o ∨ ∃ c, (o.cancel st red).1 = { o with sizeCancelled := o.sizeCancelled + c } := by
  unfold cancel
  split
  · exact .inl rfl
  · split
    · exact .inr ⟨_, rfl⟩
    · exact .inl rfl

theorem update_fst (o : SimOrder) (book : BookView) (pers : String) :
    (o.update book pers).1 = o ∨ (o.update book pers).1 = { o with persistence := pers } := by
  unfold update
  split_ifs
  · left; rfl
  · left; rfl
  · right; rfl
  · left; rfl

end SimOrder
end Flumine
