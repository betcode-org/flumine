/- Lemmas/Frame.lean — what the functions of the world model leave alone, for nine quantities that are each written by one or two
   functions only (named in the section headers).  For composite functions these are readings of the footprints of `Eff.lean`
   (`(eff_f ..).foreign`, `.len`, `.mids` ..), which is what the later layers use; the facts about the single setters are stated
   one by one as `simp` lemmas for whoever reasons about one setter at a time. -/
import Flumine.Lemmas.Eff
namespace Flumine
open World

/-! ### three projections of the world -/

/-- the ids of the markets the framework knows, in order of arrival -/
def World.mids (w : World) : List Nat := w.markets.map (·.id)

/-- every market the framework knows with its own list of runner removals already applied (`Market.removals`:
    `SimulatedMiddleware._market_runner_removals[market_id]`), in order of arrival -/
def World.mrem (w : World) : List (Nat × List (Nat × Rat × Option Rat)) := w.markets.map fun m => (m.id, m.removals)

/-- the closed-market callbacks emitted so far, in order -/
def World.cc (w : World) : List Ev := w.out.filter Ev.isCC

@[simp] theorem Ev.isCC_closedCallback (s m : Nat) (t : Time) : (Ev.closedCallback s m t).isCC = true := rfl
@[simp] theorem Ev.isCC_clearedOrders (m n : Nat) : (Ev.clearedOrders m n).isCC = false := rfl
@[simp] theorem Ev.isCC_clearedMarket (m c : Nat) (p q : Rat) (b : Nat) : (Ev.clearedMarket m c p q b).isCC = false := rfl
@[simp] theorem Ev.isCC_closeEvent (m : Nat) : (Ev.closeEvent m).isCC = false := rfl
@[simp] theorem Ev.isCC_marketEvent (m : Nat) : (Ev.marketEvent m).isCC = false := rfl
@[simp] theorem Ev.isCC_tradeEvent (m : Nat) : (Ev.tradeEvent m).isCC = false := rfl
@[simp] theorem Ev.isCC_orderEvent (m : Nat) : (Ev.orderEvent m).isCC = false := rfl
@[simp] theorem Ev.isCC_processOrders (s m n : Nat) : (Ev.processOrders s m n).isCC = false := rfl
@[simp] theorem Ev.isCC_newMarket (s m : Nat) : (Ev.newMarket s m).isCC = false := rfl
@[simp] theorem Ev.isCC_bookCallback (s m : Nat) (t : Time) : (Ev.bookCallback s m t).isCC = false := rfl
@[simp] theorem Ev.isCC_warnNoMarket (m : Nat) : (Ev.warnNoMarket m).isCC = false := rfl
@[simp] theorem Ev.isCC_removedMarket (m : Nat) : (Ev.removedMarket m).isCC = false := rfl

namespace Eff
variable {S : List Kind} {a b : World}

theorem mids (h : Eff S a b) (hS : Kind.Disj S [Kind.newMarket] := by decide) : b.mids = a.mids :=
  h.avoid (·.mids) _ (fun hw hk => by
    induction hw with
    | market w g hg => exact map_map_of_keeps _ g _ fun x => congrArg Prod.fst (hg x).1
    | blotter w g hg => exact map_map_of_keeps _ g _ fun x => (hg x).1
    | mrem w g hg => exact map_map_of_keeps _ g _ fun x => congrArg Prod.fst (hg x)
    | newMarket => exact absurd (by decide) hk
    | _ => rfl) hS
theorem mrem (h : Eff S a b) (hS : Kind.Disj S [Kind.mrem, Kind.newMarket] := by decide) : b.mrem = a.mrem :=
  h.avoid (·.mrem) _ (fun hw hk => by
    induction hw with
    | market w g hg => exact map_map_of_keeps _ g _ fun x => by rw [show (g x).id = x.id from congrArg Prod.fst (hg x).1, (hg x).2]
    | blotter w g hg => exact map_map_of_keeps _ g _ fun x => by rw [(hg x).1, (hg x).2]
    | mrem => exact absurd (by decide) hk
    | newMarket => exact absurd (by decide) hk
    | _ => rfl) hS
theorem cc (h : Eff S a b) (hS : Kind.Disj S [Kind.cc] := by decide) : b.cc = a.cc :=
  h.avoid (·.cc) _ (fun hw hk => by
    induction hw with
    | out w e he => unfold World.cc; rw [List.filter_append, List.filter_cons, he]; simp
    | cc => exact absurd (by decide) hk
    | _ => rfl) hS

end Eff

/-! ### the ghost counter: written by `noteForeign` only, never decreasing -/

namespace Ghost
@[simp] theorem modifyOrder_foreign (w : World) (a : Nat) (f : Order → Order) : (w.modifyOrder a f).foreign = w.foreign := rfl
@[simp] theorem setOrder_foreign (w : World) (o : Order) : (w.setOrder o).foreign = w.foreign := rfl
@[simp] theorem setTrade_foreign (w : World) (t : Trade) : (w.setTrade t).foreign = w.foreign := rfl
@[simp] theorem setMarket_foreign (w : World) (m : Market) : (w.setMarket m).foreign = w.foreign := rfl
@[simp] theorem setClient_foreign (w : World) (c : Client) : (w.setClient c).foreign = w.foreign := rfl
@[simp] theorem emit_foreign (w : World) (e : Ev) : (w.emit e).foreign = w.foreign := rfl
@[simp] theorem bumpBetId_foreign (w : World) : w.bumpBetId.foreign = w.foreign := rfl
@[simp] theorem addTransaction_foreign (w : World) (c n : Nat) (f : Bool) : (w.addTransaction c n f).foreign = w.foreign := rfl
@[simp] theorem blotterAdd_foreign (w : World) (m o : Nat) : (w.blotterAdd m o).foreign = w.foreign := rfl
@[simp] theorem blotterComplete_foreign (w : World) (m o : Nat) : (w.blotterComplete m o).foreign = w.foreign := rfl
@[simp] theorem setClock_foreign (w : World) (t : Time) : (w.setClock t).foreign = w.foreign := rfl
@[simp] theorem createReplacement_foreign (w : World) (oid : Nat) (np sz : Rat) (cr : Time) : (w.createReplacement oid np sz cr).1.foreign = w.foreign := rfl
@[simp] theorem mwUpdateAnalytics_foreign (w : World) (mid : Nat) : (w.mwUpdateAnalytics mid).1.foreign = w.foreign := rfl

theorem noteForeign_le (w : World) (mid : Nat) (a : Action) : w.foreign ≤ (w.noteForeign mid a).foreign := by
  unfold noteForeign; split
  · exact Nat.le_succ _
  · exact Nat.le_refl _

theorem doAction_le (w : World) (mid : Nat) (batch : Option Txn) (a : Action) : w.foreign ≤ (w.doAction mid batch a).1.foreign := by
  unfold doAction; rw [(eff_doActionCore ..).foreign]; exact noteForeign_le w mid a

theorem doAction_foreign_zero (w : World) (mid : Nat) (batch : Option Txn) (a : Action) (h : (w.doAction mid batch a).1.foreign = 0) :
    a.foreign w mid = false ∧ w.doAction mid batch a = w.doActionCore mid batch a := by
  unfold doAction at h ⊢
  rw [(eff_doActionCore ..).foreign] at h
  unfold noteForeign at h ⊢
  split at h
  · cases h
  · rename_i hf
    exact ⟨by simpa using hf, by rw [if_neg hf]⟩

theorem doActions_le (w : World) (mid : Nat) (as : List Action) : w.foreign ≤ (w.doActions mid as).1.foreign :=
  Rules.doActions (fun w _ w' _ => w.foreign ≤ w'.foreign) (fun _ _ => Nat.le_refl _) Nat.le_trans mid (fun w b a => doAction_le w mid b a)
    (fun w t => Nat.le_of_eq (eff_txnExit w t).foreign.symm) w as

end Ghost

/-! ### the order table: created by `create` actions and the replace handler only -/

namespace Len
@[simp] theorem setTrade_len (w : World) (t : Trade) : (w.setTrade t).orders.length = w.orders.length := rfl
@[simp] theorem setMarket_len (w : World) (m : Market) : (w.setMarket m).orders.length = w.orders.length := rfl
@[simp] theorem setClient_len (w : World) (c : Client) : (w.setClient c).orders.length = w.orders.length := rfl
@[simp] theorem modifyMarket_len (w : World) (a : Nat) (f : Market → Market) : (w.modifyMarket a f).orders.length = w.orders.length := rfl
@[simp] theorem emit_len (w : World) (e : Ev) : (w.emit e).orders.length = w.orders.length := rfl
@[simp] theorem bumpBetId_len (w : World) : w.bumpBetId.orders.length = w.orders.length := rfl
@[simp] theorem addTransaction_len (w : World) (c n : Nat) (f : Bool) : (w.addTransaction c n f).orders.length = w.orders.length := rfl
@[simp] theorem blotterComplete_len (w : World) (m o : Nat) : (w.blotterComplete m o).orders.length = w.orders.length := rfl
@[simp] theorem setClock_len (w : World) (t : Time) : (w.setClock t).orders.length = w.orders.length := rfl
@[simp] theorem mwUpdateAnalytics_len (w : World) (mid : Nat) : (w.mwUpdateAnalytics mid).1.orders.length = w.orders.length := rfl
@[simp] theorem tradeEnter_len (w : World) (tid : Nat) : (w.tradeEnter tid).orders.length = w.orders.length := (eff_tradeEnter ..).len
@[simp] theorem tradeExit_len (w : World) (tid : Nat) : (w.tradeExit tid).orders.length = w.orders.length := (eff_tradeExit ..).len
@[simp] theorem orderExecutable_len (w : World) (oid : Nat) : (w.orderExecutable oid).orders.length = w.orders.length :=
  (eff_orderExecutable ..).len
@[simp] theorem txnExit_len (w : World) (t : Txn) : (w.txnExit t).orders.length = w.orders.length := (eff_txnExit ..).len
theorem txnCancel_len (w : World) (t : Txn) (oid : Nat) (red : Option Rat) (f : Bool) : (w.txnCancel t oid red f).1.orders.length = w.orders.length :=
  (eff_txnCancel ..).len
theorem txnUpdate_len (w : World) (t : Txn) (oid : Nat) (p : String) (f : Bool) : (w.txnUpdate t oid p f).1.orders.length = w.orders.length :=
  (eff_txnUpdate ..).len
theorem txnReplace_len (w : World) (t : Txn) (oid : Nat) (p : Rat) (v : Option Int) (f : Bool) : (w.txnReplace t oid p v f).1.orders.length = w.orders.length :=
  (eff_txnReplace ..).len
end Len

/-! ### the package counter and the handler queue -/

namespace NextPk
@[simp] theorem modifyOrder_nextPackage (w : World) (a : Nat) (f : Order → Order) : (w.modifyOrder a f).nextPackage = w.nextPackage := rfl
@[simp] theorem setOrder_nextPackage (w : World) (o : Order) : (w.setOrder o).nextPackage = w.nextPackage := rfl
@[simp] theorem setTrade_nextPackage (w : World) (t : Trade) : (w.setTrade t).nextPackage = w.nextPackage := rfl
@[simp] theorem setMarket_nextPackage (w : World) (m : Market) : (w.setMarket m).nextPackage = w.nextPackage := rfl
@[simp] theorem setClient_nextPackage (w : World) (c : Client) : (w.setClient c).nextPackage = w.nextPackage := rfl
@[simp] theorem modifyMarket_nextPackage (w : World) (a : Nat) (f : Market → Market) : (w.modifyMarket a f).nextPackage = w.nextPackage := rfl
@[simp] theorem emit_nextPackage (w : World) (e : Ev) : (w.emit e).nextPackage = w.nextPackage := rfl
@[simp] theorem bumpBetId_nextPackage (w : World) : w.bumpBetId.nextPackage = w.nextPackage := rfl
@[simp] theorem addTransaction_nextPackage (w : World) (c n : Nat) (f : Bool) : (w.addTransaction c n f).nextPackage = w.nextPackage := rfl
@[simp] theorem blotterAdd_nextPackage (w : World) (m o : Nat) : (w.blotterAdd m o).nextPackage = w.nextPackage := rfl
@[simp] theorem blotterComplete_nextPackage (w : World) (m o : Nat) : (w.blotterComplete m o).nextPackage = w.nextPackage := rfl
@[simp] theorem setClock_nextPackage (w : World) (t : Time) : (w.setClock t).nextPackage = w.nextPackage := rfl
@[simp] theorem createReplacement_nextPackage (w : World) (oid : Nat) (np sz : Rat) (cr : Time) : (w.createReplacement oid np sz cr).1.nextPackage = w.nextPackage := rfl
@[simp] theorem mwUpdateAnalytics_nextPackage (w : World) (mid : Nat) : (w.mwUpdateAnalytics mid).1.nextPackage = w.nextPackage := rfl
theorem txnCancel_nextPackage (w : World) (t : Txn) (oid : Nat) (red : Option Rat) (f : Bool) : (w.txnCancel t oid red f).1.nextPackage = w.nextPackage :=
  (eff_txnCancel ..).nextPackage
theorem txnUpdate_nextPackage (w : World) (t : Txn) (oid : Nat) (p : String) (f : Bool) : (w.txnUpdate t oid p f).1.nextPackage = w.nextPackage :=
  (eff_txnUpdate ..).nextPackage
theorem txnReplace_nextPackage (w : World) (t : Txn) (oid : Nat) (p : Rat) (v : Option Int) (f : Bool) : (w.txnReplace t oid p v f).1.nextPackage = w.nextPackage :=
  (eff_txnReplace ..).nextPackage
end NextPk

namespace Qu
@[simp] theorem modifyOrder_queue (w : World) (a : Nat) (f : Order → Order) : (w.modifyOrder a f).queue = w.queue := rfl
@[simp] theorem setOrder_queue (w : World) (o : Order) : (w.setOrder o).queue = w.queue := rfl
@[simp] theorem setTrade_queue (w : World) (t : Trade) : (w.setTrade t).queue = w.queue := rfl
@[simp] theorem setMarket_queue (w : World) (m : Market) : (w.setMarket m).queue = w.queue := rfl
@[simp] theorem setClient_queue (w : World) (c : Client) : (w.setClient c).queue = w.queue := rfl
@[simp] theorem modifyMarket_queue (w : World) (a : Nat) (f : Market → Market) : (w.modifyMarket a f).queue = w.queue := rfl
@[simp] theorem emit_queue (w : World) (e : Ev) : (w.emit e).queue = w.queue := rfl
@[simp] theorem bumpBetId_queue (w : World) : w.bumpBetId.queue = w.queue := rfl
@[simp] theorem addTransaction_queue (w : World) (c n : Nat) (f : Bool) : (w.addTransaction c n f).queue = w.queue := rfl
@[simp] theorem blotterAdd_queue (w : World) (m o : Nat) : (w.blotterAdd m o).queue = w.queue := rfl
@[simp] theorem blotterComplete_queue (w : World) (m o : Nat) : (w.blotterComplete m o).queue = w.queue := rfl
@[simp] theorem setClock_queue (w : World) (t : Time) : (w.setClock t).queue = w.queue := rfl
@[simp] theorem createReplacement_queue (w : World) (oid : Nat) (np sz : Rat) (cr : Time) : (w.createReplacement oid np sz cr).1.queue = w.queue := rfl
@[simp] theorem mwUpdateAnalytics_queue (w : World) (mid : Nat) : (w.mwUpdateAnalytics mid).1.queue = w.queue := rfl
theorem txnCancel_queue (w : World) (t : Txn) (oid : Nat) (red : Option Rat) (f : Bool) : (w.txnCancel t oid red f).1.queue = w.queue :=
  (eff_txnCancel ..).queue
theorem txnUpdate_queue (w : World) (t : Txn) (oid : Nat) (p : String) (f : Bool) : (w.txnUpdate t oid p f).1.queue = w.queue :=
  (eff_txnUpdate ..).queue
theorem txnReplace_queue (w : World) (t : Txn) (oid : Nat) (p : Rat) (v : Option Int) (f : Bool) : (w.txnReplace t oid p v f).1.queue = w.queue :=
  (eff_txnReplace ..).queue
@[simp] theorem executePackage_queue (w : World) (p : Package) : (w.executePackage p).queue = w.queue := (eff_executePackage ..).queue
@[simp] theorem simulatedMiddleware_queue (w : World) (mid : Nat) : (w.simulatedMiddleware mid).queue = w.queue := (eff_simulatedMiddleware ..).queue
@[simp] theorem processSimulatedOrders_queue (w : World) (mid : Nat) : (w.processSimulatedOrders mid).queue = w.queue :=
  (eff_processSimulatedOrders ..).queue
@[simp] theorem processCloseMarket_queue (w : World) (mid : Nat) (book : Book) : (w.processCloseMarket mid book).queue = w.queue :=
  (eff_processCloseMarket ..).queue
end Qu

/-! ### the strategy list: constant -/

namespace Strat
@[simp] theorem modifyOrder_strategies (w : World) (a : Nat) (f : Order → Order) : (w.modifyOrder a f).strategies = w.strategies := rfl
@[simp] theorem setOrder_strategies (w : World) (o : Order) : (w.setOrder o).strategies = w.strategies := rfl
@[simp] theorem setTrade_strategies (w : World) (t : Trade) : (w.setTrade t).strategies = w.strategies := rfl
@[simp] theorem setMarket_strategies (w : World) (m : Market) : (w.setMarket m).strategies = w.strategies := rfl
@[simp] theorem setClient_strategies (w : World) (c : Client) : (w.setClient c).strategies = w.strategies := rfl
@[simp] theorem modifyMarket_strategies (w : World) (a : Nat) (f : Market → Market) : (w.modifyMarket a f).strategies = w.strategies := rfl
@[simp] theorem emit_strategies (w : World) (e : Ev) : (w.emit e).strategies = w.strategies := rfl
@[simp] theorem bumpBetId_strategies (w : World) : w.bumpBetId.strategies = w.strategies := rfl
@[simp] theorem addTransaction_strategies (w : World) (c n : Nat) (f : Bool) : (w.addTransaction c n f).strategies = w.strategies := rfl
@[simp] theorem blotterAdd_strategies (w : World) (m o : Nat) : (w.blotterAdd m o).strategies = w.strategies := rfl
@[simp] theorem blotterComplete_strategies (w : World) (m o : Nat) : (w.blotterComplete m o).strategies = w.strategies := rfl
@[simp] theorem setClock_strategies (w : World) (t : Time) : (w.setClock t).strategies = w.strategies := rfl
@[simp] theorem createReplacement_strategies (w : World) (oid : Nat) (np sz : Rat) (cr : Time) : (w.createReplacement oid np sz cr).1.strategies = w.strategies := rfl
@[simp] theorem mwUpdateAnalytics_strategies (w : World) (mid : Nat) : (w.mwUpdateAnalytics mid).1.strategies = w.strategies := rfl
@[simp] theorem setClock_strategies' (w : World) (t : Time) : (w.setClock t).strategies = w.strategies := rfl
theorem runUpdates_strategies (w : World) (us : List (Nat × Book × (Nat → List Action))) : (Inv.runUpdates w us).strategies = w.strategies :=
  (eff_runUpdates w us).strategies
end Strat

/-! ### the known markets: created by `receive` on a first book, never deleted

Statements say "known" as `(w.market? m).isSome = true` and "new" as `(w.market? m).isNone = true`, the test `receive` makes;
`market?_isSome_iff` turns either into membership of `w.mids`, which is what footprints transport (`Eff.mids`). -/

namespace Mids
@[simp] theorem modifyOrder_mids (w : World) (a : Nat) (f : Order → Order) : (w.modifyOrder a f).mids = w.mids := rfl
@[simp] theorem setOrder_mids (w : World) (o : Order) : (w.setOrder o).mids = w.mids := rfl
@[simp] theorem setTrade_mids (w : World) (t : Trade) : (w.setTrade t).mids = w.mids := rfl
@[simp] theorem setClient_mids (w : World) (c : Client) : (w.setClient c).mids = w.mids := rfl
@[simp] theorem emit_mids (w : World) (e : Ev) : (w.emit e).mids = w.mids := rfl
@[simp] theorem bumpBetId_mids (w : World) : w.bumpBetId.mids = w.mids := rfl
@[simp] theorem addTransaction_mids (w : World) (c n : Nat) (f : Bool) : (w.addTransaction c n f).mids = w.mids := rfl
@[simp] theorem setClock_mids (w : World) (t : Time) : (w.setClock t).mids = w.mids := rfl
@[simp] theorem createReplacement_mids (w : World) (oid : Nat) (np sz : Rat) (cr : Time) : (w.createReplacement oid np sz cr).1.mids = w.mids := rfl
@[simp] theorem setMarket_mids (w : World) (m : Market) : (w.setMarket m).mids = w.mids :=
  map_map_of_keeps _ _ _ fun x => by split <;> simp_all

theorem market?_isSome_iff (w : World) (mid : Nat) : (w.market? mid).isSome = true ↔ mid ∈ w.mids := by
  unfold market? World.mids
  rw [List.find?_isSome, List.mem_map]
  simp only [decide_eq_true_eq]

theorem receive_mids (w : World) (mid : Nat) (book : Book) :
    (w.receive mid book).mids = if mid ∈ w.mids then w.mids else w.mids ++ [mid] := by
  have hk : mid ∈ w.mids ↔ ¬ (w.market? mid).isNone = true := by
    rw [← market?_isSome_iff]; cases w.market? mid <;> simp
  rcases receive_cases w mid book with ⟨hn, h⟩ | ⟨hn, h⟩ <;> rw [h.mids]
  · rw [if_neg fun hm => hk.mp hm hn]
    exact List.map_append
  · rw [if_pos (hk.mpr hn)]

theorem mem_receive (w : World) (mid : Nat) (book : Book) : mid ∈ (w.receive mid book).mids := by
  rw [receive_mids]
  split
  · assumption
  · exact List.mem_append_right _ (List.mem_singleton_self _)
end Mids

/-! ### the closed-market callbacks: written by `processCloseMarket` only -/

namespace Cc
@[simp] theorem modifyOrder_cc (w : World) (a : Nat) (f : Order → Order) : (w.modifyOrder a f).cc = w.cc := rfl
@[simp] theorem setOrder_cc (w : World) (o : Order) : (w.setOrder o).cc = w.cc := rfl
@[simp] theorem setTrade_cc (w : World) (t : Trade) : (w.setTrade t).cc = w.cc := rfl
@[simp] theorem setMarket_cc (w : World) (m : Market) : (w.setMarket m).cc = w.cc := rfl
@[simp] theorem setClient_cc (w : World) (c : Client) : (w.setClient c).cc = w.cc := rfl
@[simp] theorem bumpBetId_cc (w : World) : w.bumpBetId.cc = w.cc := rfl
@[simp] theorem addTransaction_cc (w : World) (c n : Nat) (f : Bool) : (w.addTransaction c n f).cc = w.cc := rfl
@[simp] theorem blotterAdd_cc (w : World) (m o : Nat) : (w.blotterAdd m o).cc = w.cc := rfl
@[simp] theorem blotterComplete_cc (w : World) (m o : Nat) : (w.blotterComplete m o).cc = w.cc := rfl
@[simp] theorem setClock_cc (w : World) (t : Time) : (w.setClock t).cc = w.cc := rfl
@[simp] theorem createReplacement_cc (w : World) (oid : Nat) (np sz : Rat) (cr : Time) : (w.createReplacement oid np sz cr).1.cc = w.cc := rfl
@[simp] theorem mwUpdateAnalytics_cc (w : World) (mid : Nat) : (w.mwUpdateAnalytics mid).1.cc = w.cc := rfl
@[simp] theorem emit_cc (w : World) (e : Ev) : (w.emit e).cc = w.cc ++ (if e.isCC then [e] else []) := by
  unfold World.cc emit
  simp only [List.filter_append, List.filter_cons, List.filter_nil]

theorem filter_closeCallbacks (w : World) (mid : Nat) (book : Book) : (w.closeCallbacks mid book).filter Ev.isCC = w.closeCallbacks mid book := by
  unfold closeCallbacks
  rw [List.filter_eq_self]
  intro e he
  obtain ⟨s, _, rfl⟩ := List.mem_map.mp he
  rfl

theorem filter_clearedEvents (w : World) (mid : Nat) : (w.clearedEvents mid).filter Ev.isCC = [] := by
  unfold clearedEvents
  rw [List.filter_eq_nil_iff]
  intro e he
  simp only [List.mem_append, List.mem_map] at he
  rcases he with he | ⟨c, _, rfl⟩
  · split at he
    · simp only [List.mem_singleton] at he; subst he; simp
    · cases he
  · simp

theorem processCloseMarket_cc (w : World) (mid : Nat) (book : Book) :
    (w.processCloseMarket mid book).cc = w.cc ++ (if (w.market? mid).isSome then w.closeCallbacks mid book else []) := by
  cases h : w.market? mid with
  | none => rw [processCloseMarket_none w mid book h]; simp
  | some m =>
    rw [processCloseMarket_some w mid book m h]
    have h3 := eff_preClose w mid book m
    generalize C20.preClose w mid book m = w3 at h3
    unfold closeOut
    extract_lets w4 w5
    have e4 : w4.cc = w.cc ++ w.closeCallbacks mid book := by
      show (w3.out ++ w3.closeCallbacks mid book ++ w3.clearedEvents mid ++ [Ev.closeEvent mid]).filter Ev.isCC = _
      rw [List.filter_append, List.filter_append, List.filter_append, filter_closeCallbacks, filter_clearedEvents]
      unfold closeCallbacks
      rw [h3.strategies]
      have : w3.out.filter Ev.isCC = w.cc := h3.cc
      rw [this]; simp
    have h5 : Eff [.market, .ctx] w4 { w5 with ctxs := w5.ctxs.filter fun c => c.key.market ≠ mid } :=
      (eff_modifyMarket w4 mid _ : Eff [.market] w4 w5).trans (Eff.one (.ctx w5 _) (S := [.ctx]))
    rw [h5.cc, e4]; rfl
end Cc

/-! ### the markets' lists of applied removals: written by `mwUpdateAnalytics` only -/

namespace Mrem
@[simp] theorem modifyOrder_mrem (w : World) (a : Nat) (f : Order → Order) : (w.modifyOrder a f).mrem = w.mrem := rfl
@[simp] theorem setOrder_mrem (w : World) (o : Order) : (w.setOrder o).mrem = w.mrem := rfl
@[simp] theorem setTrade_mrem (w : World) (t : Trade) : (w.setTrade t).mrem = w.mrem := rfl
@[simp] theorem setClient_mrem (w : World) (c : Client) : (w.setClient c).mrem = w.mrem := rfl
@[simp] theorem emit_mrem (w : World) (e : Ev) : (w.emit e).mrem = w.mrem := rfl
@[simp] theorem bumpBetId_mrem (w : World) : w.bumpBetId.mrem = w.mrem := rfl
@[simp] theorem addTransaction_mrem (w : World) (c n : Nat) (f : Bool) : (w.addTransaction c n f).mrem = w.mrem := rfl
@[simp] theorem setClock_mrem (w : World) (t : Time) : (w.setClock t).mrem = w.mrem := rfl
@[simp] theorem createReplacement_mrem (w : World) (oid : Nat) (np sz : Rat) (cr : Time) : (w.createReplacement oid np sz cr).1.mrem = w.mrem := rfl
end Mrem

/-! ### the client table: inside a handler only the closing `client.add_transaction` calls write it -/

namespace Clients
@[simp] theorem modifyOrder_clients (w : World) (a : Nat) (f : Order → Order) : (w.modifyOrder a f).clients = w.clients := rfl
@[simp] theorem setOrder_clients (w : World) (o : Order) : (w.setOrder o).clients = w.clients := rfl
@[simp] theorem setTrade_clients (w : World) (t : Trade) : (w.setTrade t).clients = w.clients := rfl
@[simp] theorem emit_clients (w : World) (e : Ev) : (w.emit e).clients = w.clients := rfl
@[simp] theorem bumpBetId_clients (w : World) : w.bumpBetId.clients = w.clients := rfl
@[simp] theorem blotterAdd_clients (w : World) (m o : Nat) : (w.blotterAdd m o).clients = w.clients := rfl
@[simp] theorem setClock_clients (w : World) (t : Time) : (w.setClock t).clients = w.clients := rfl
@[simp] theorem createReplacement_clients (w : World) (oid : Nat) (np sz : Rat) (cr : Time) : (w.createReplacement oid np sz cr).1.clients = w.clients := rfl
@[simp] theorem blotterComplete_clients (w : World) (m o : Nat) : (w.blotterComplete m o).clients = w.clients := rfl
@[simp] theorem ctxPlace_clients (w : World) (k : CtxKey) (t : Nat) : (w.ctxPlace k t).clients = w.clients := (eff_ctxPlace ..).clients
@[simp] theorem orderViolation_clients (w : World) (oid : Nat) (m : String) : (w.orderViolation oid m).clients = w.clients :=
  (eff_orderViolation ..).clients
end Clients

end Flumine
