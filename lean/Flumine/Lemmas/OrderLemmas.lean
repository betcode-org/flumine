/- Lemmas/OrderLemmas.lean — looking an order or a market up after the world's functional updates (`hf` is the
   auto-parameter of `Tables.lean`). -/
import Flumine.Lemmas.Tables
namespace Flumine.OL
open Flumine.World

def HasOrder (w : World) (oid : Nat) : Prop := ∃ o, w.orders.find? (fun x => decide (x.id = oid)) = some o

theorem order!_of_find (w : World) (oid : Nat) (o : Order) (h : w.orders.find? (fun x => decide (x.id = oid)) = some o) :
    w.order! oid = o := by
  unfold order! order?; rw [h]; rfl

theorem not_hasOrder_of_nil {w : World} (h : w.orders = []) (a : Nat) : ¬ HasOrder w a := fun ⟨_, ho⟩ => by rw [h] at ho; cases ho

theorem order!_id (w : World) (oid : Nat) (h : HasOrder w oid) : (w.order! oid).id = oid := by
  obtain ⟨o, ho⟩ := h
  rw [order!_of_find w oid o ho]
  exact order?_id ho

theorem order!_congr (w w' : World) (h : w'.orders = w.orders) (oid : Nat) : w'.order! oid = w.order! oid := by
  unfold order! order?; rw [h]

theorem hasOrder_congr (w w' : World) (h : w'.orders = w.orders) (oid : Nat) : HasOrder w' oid ↔ HasOrder w oid := by
  unfold HasOrder; rw [h]

theorem order!_modify_self (w : World) (oid : Nat) (f : Order → Order) (h : HasOrder w oid)
    (hf : ∀ x, x.id = oid → (f x).id = oid := by intro _ h; exact h) : (w.modifyOrder oid f).order! oid = f (w.order! oid) := by
  obtain ⟨o, (ho : w.order? oid = some o)⟩ := h
  unfold order!
  rw [order?_modifyOrder w oid f oid hf, ho]
  simp [order?_id ho]

theorem order!_modify_other (w : World) (oid a : Nat) (f : Order → Order) (hne : oid ≠ a)
    (hf : ∀ x, x.id = a → (f x).id = a := by intro _ h; exact h) : (w.modifyOrder a f).order! oid = w.order! oid := by
  unfold order!
  rw [order?_modifyOrder w a f oid hf]
  cases h : w.order? oid with
  | none => rfl
  | some o => simp [order?_id h, hne]

theorem hasOrder_modify (w : World) (oid a : Nat) (f : Order → Order) (h : HasOrder w oid)
    (hf : ∀ x, x.id = a → (f x).id = a := by intro _ h; exact h) : HasOrder (w.modifyOrder a f) oid := by
  obtain ⟨o, (ho : w.order? oid = some o)⟩ := h
  show ∃ o, (w.modifyOrder a f).order? oid = some o
  rw [order?_modifyOrder w a f oid hf, ho]
  exact ⟨_, rfl⟩

theorem setOrder_eq_modify (w : World) (o : Order) : w.setOrder o = w.modifyOrder o.id (fun _ => o) := rfl

theorem order!_setOrder_self (w : World) (o : Order) {a : Nat} (e : o.id = a) (h : HasOrder w a) : (w.setOrder o).order! a = o := by
  subst e
  rw [setOrder_eq_modify, order!_modify_self w o.id (fun _ => o) h (fun _ _ => rfl)]

theorem order!_setOrder_other (w : World) (o : Order) {a : Nat} (e : o.id = a) (oid : Nat) (hne : oid ≠ a) :
    (w.setOrder o).order! oid = w.order! oid := by
  subst e
  rw [setOrder_eq_modify, order!_modify_other w oid o.id (fun _ => o) hne (fun _ _ => rfl)]

theorem hasOrder_setOrder (w : World) (o : Order) (oid : Nat) (h : HasOrder w oid) : HasOrder (w.setOrder o) oid := by
  rw [setOrder_eq_modify]; exact hasOrder_modify w oid o.id _ h (fun _ _ => rfl)

/-! ### functions that do not touch the order table -/

theorem setTrade_orders (w : World) (t : Trade) : (w.setTrade t).orders = w.orders := rfl
theorem emit_orders (w : World) (e : Ev) : (w.emit e).orders = w.orders := rfl
theorem setCtx_orders (w : World) (c : RunnerCtx) : (w.setCtx c).orders = w.orders := by
  unfold setCtx; split <;> rfl
theorem ctxReset_orders (w : World) (k : CtxKey) (t : Nat) : (w.ctxReset k t).orders = w.orders := setCtx_orders _ _
theorem completeTrade_orders (w : World) (tid : Nat) : (w.completeTrade tid).orders = w.orders := by
  unfold completeTrade; simp only [ctxReset_orders, setTrade_orders]
theorem tradeUpdateStatus_orders (w : World) (tid : Nat) (s : TradeStatus) : (w.tradeUpdateStatus tid s).orders = w.orders := by
  unfold tradeUpdateStatus
  simp only
  split
  · rw [completeTrade_orders, setTrade_orders]
  · rw [setTrade_orders]
theorem tradeEnter_orders (w : World) (tid : Nat) : (w.tradeEnter tid).orders = w.orders := tradeUpdateStatus_orders _ _ _
theorem tradeExit_orders (w : World) (tid : Nat) : (w.tradeExit tid).orders = w.orders := tradeUpdateStatus_orders _ _ _

/-! ### `_update_status` -/

/-- the order as `_update_status(s)` leaves it -/
def stamped (o : Order) (now : Time) (s : Status) : Order :=
  { o with status := some s, log := o.log ++ [s], statusAt := now, complete := statusComplete s }

theorem orderUpdateStatus_orders (w : World) (oid : Nat) (s : Status) :
    (w.orderUpdateStatus oid s).orders = (w.setOrder (stamped (w.order! oid) w.clock s)).orders := by
  unfold orderUpdateStatus
  simp only
  split
  · rw [completeTrade_orders]; rfl
  · rfl

theorem orderUpdateStatus_self (w : World) (oid : Nat) (s : Status) (h : HasOrder w oid) :
    (w.orderUpdateStatus oid s).order! oid = stamped (w.order! oid) w.clock s := by
  rw [order!_congr _ _ (orderUpdateStatus_orders w oid s)]
  exact order!_setOrder_self w (stamped (w.order! oid) w.clock s) (order!_id w oid h) h

theorem orderUpdateStatus_other (w : World) (oid a : Nat) (s : Status) (ha : HasOrder w a) (hne : oid ≠ a) :
    (w.orderUpdateStatus a s).order! oid = w.order! oid := by
  rw [order!_congr _ _ (orderUpdateStatus_orders w a s)]
  exact order!_setOrder_other w (stamped (w.order! a) w.clock s) (order!_id w a ha) oid hne

theorem hasOrder_orderUpdateStatus (w : World) (oid a : Nat) (s : Status) (h : HasOrder w oid) :
    HasOrder (w.orderUpdateStatus a s) oid := by
  rw [hasOrder_congr _ _ (orderUpdateStatus_orders w a s)]
  exact hasOrder_setOrder w _ oid h

/-! ### `executable()`, `execution_complete()` on the order they are applied to -/

theorem executable_self (w : World) (oid : Nat) (ho : HasOrder w oid) :
    (w.orderExecutable oid).order! oid =
      if (w.order! oid).complete then { w.order! oid with ud := {} }
      else { stamped (w.order! oid) w.clock .executable with ud := {} } := by
  unfold orderExecutable
  by_cases hc : (w.order! oid).complete = true
  · rw [if_pos hc, if_pos hc, order!_modify_self w oid _ ho]
  · rw [if_neg hc, if_neg hc, order!_modify_self _ oid _ (hasOrder_orderUpdateStatus w oid oid .executable ho),
      orderUpdateStatus_self w oid .executable ho]

theorem executionComplete_self (w : World) (oid : Nat) (ho : HasOrder w oid) :
    (w.orderExecutionComplete oid).order! oid =
      { stamped (w.order! oid) w.clock .executionComplete with ud := {}, completeAt := some w.clock } := by
  unfold orderExecutionComplete
  rw [order!_modify_self _ oid _ (hasOrder_orderUpdateStatus w oid oid .executionComplete ho),
    orderUpdateStatus_self w oid .executionComplete ho]

/-! ### the general forms: any order after `modifyOrder`, orders after an append, markets -/

theorem order?_missing {w : World} {oid : Nat} (h : ¬ HasOrder w oid) : w.order? oid = none := by
  cases hf : w.order? oid with
  | none => rfl
  | some x => exact absurd ⟨x, hf⟩ h

theorem order!_missing (w : World) (oid : Nat) (h : ¬ HasOrder w oid) : w.order! oid = default := by
  unfold order!; rw [order?_missing h]; rfl

theorem hasOrder_key {w : World} {a : Nat} (h : HasOrder w a) : HasOrder w (w.order! a).id := by rw [order!_id w a h]; exact h

theorem modifyOrder_missing (w : World) (a : Nat) (f : Order → Order) (h : ¬ HasOrder w a) : w.modifyOrder a f = w := by
  have hnone : ∀ x ∈ w.orders, ¬ x.id = a := fun x hx => by simpa using List.find?_eq_none.mp (order?_missing h) x hx
  unfold modifyOrder
  have : (w.orders.map fun x => if x.id = a then f x else x) = w.orders.map id :=
    List.map_congr_left fun x hx => if_neg (hnone x hx)
  rw [this, List.map_id]

theorem order!_modify (w : World) (oid a : Nat) (f : Order → Order) (hf : ∀ x, x.id = a → (f x).id = a := by intro _ h; exact h) :
    (w.modifyOrder a f).order! oid = w.order! oid ∨ (oid = a ∧ HasOrder w a ∧ (w.modifyOrder a f).order! oid = f (w.order! a)) := by
  by_cases e : oid = a
  · subst e
    by_cases h : HasOrder w oid
    · exact Or.inr ⟨rfl, h, order!_modify_self w oid f h hf⟩
    · left; rw [modifyOrder_missing w oid f h]
  · exact Or.inl (order!_modify_other w oid a f e hf)

theorem order!_appended (w w' : World) (o : Order) (ho : w'.orders = w.orders ++ [o]) (hn : ¬ HasOrder w o.id) : w'.order! o.id = o := by
  apply order!_of_find
  rw [ho, List.find?_append, show w.orders.find? _ = none from order?_missing hn]
  simp

/-- `w'` is `w` with the new order `o` - the next creation index, no status, not complete, an empty log (`BaseOrder.__init__`) -
    appended to the order table; the trade table is rewritten (the order is noted on its trade) and nothing else.  What
    `create_order_replacement` (`createReplacement_appended`) and a scripted `create` (`Rules.doActionCore`) do. -/
structure Appended (w : World) (o : Order) (w' : World) : Prop where
  id : o.id = w.orders.length
  status : o.status = none
  complete : o.complete = false
  log : o.log = []
  eq : ∃ ts, w' = { w with orders := w.orders ++ [o], trades := ts }

namespace Appended
variable {w w' : World} {o : Order} (h : Appended w o w')
include h

theorem orders : w'.orders = w.orders ++ [o] := let ⟨_, e⟩ := h.eq; e ▸ rfl
theorem markets : w'.markets = w.markets := let ⟨_, e⟩ := h.eq; e ▸ rfl
theorem queue : w'.queue = w.queue := let ⟨_, e⟩ := h.eq; e ▸ rfl
theorem foreign : w'.foreign = w.foreign := let ⟨_, e⟩ := h.eq; e ▸ rfl
theorem nextPackage : w'.nextPackage = w.nextPackage := let ⟨_, e⟩ := h.eq; e ▸ rfl

theorem order! {x : Nat} (hx : HasOrder w x) : w'.order! x = w.order! x := by
  obtain ⟨y, hy⟩ := hx
  rw [order!_of_find w x y hy]
  apply order!_of_find
  rw [h.orders, List.find?_append, hy]; rfl

theorem new (hn : ¬ HasOrder w o.id) : w'.order! o.id = o := order!_appended w w' o h.orders hn

end Appended

theorem orderUpdateStatus_market (w : World) (oid a : Nat) (s : Status) (ha : HasOrder w a) :
    ((w.orderUpdateStatus a s).order! oid).market = (w.order! oid).market := by
  by_cases e : oid = a
  · rw [e, orderUpdateStatus_self w a s ha]; rfl
  · rw [orderUpdateStatus_other w oid a s ha e]

theorem market!_congr (w w' : World) (h : w'.markets = w.markets) (mid : Nat) : w'.market! mid = w.market! mid := by
  unfold market! market?; rw [h]

theorem market!_modify (w : World) (m a : Nat) (f : Market → Market) (hf : ∀ x, (f x).id = x.id := by exact fun _ => rfl) :
    (w.modifyMarket a f).market! m = w.market! m ∨ (m = a ∧ (w.modifyMarket a f).market! m = f (w.market! m)) := by
  unfold market!
  rw [market?_modifyMarket w a f m fun x hx => (hf x).trans hx]
  cases h : w.market? m with
  | none => left; rfl
  | some x =>
    by_cases e : x.id = a
    · right; exact ⟨(market?_id h).symm.trans e, by simp [e]⟩
    · left; simp [e]

theorem market?_modify_self (w : World) (mid : Nat) (f : Market → Market) (m : Market) (hm : w.market? mid = some m)
    (hf : ∀ x, (f x).id = x.id := by exact fun _ => rfl) :
    (w.modifyMarket mid f).market? mid = some (f m) := by
  rw [market?_modifyMarket w mid f mid fun x hx => (hf x).trans hx, hm]
  simp [market?_id hm]

theorem market!_modify_self (w : World) (a : Nat) (f : Market → Market) (h : (w.market? a).isSome = true)
    (hf : ∀ x, (f x).id = x.id := by exact fun _ => rfl) : (w.modifyMarket a f).market! a = f (w.market! a) := by
  cases hm : w.market? a with
  | none => rw [hm] at h; cases h
  | some m => unfold market!; rw [market?_modify_self w a f m hm hf, hm]; rfl

theorem market!_append_other (w : World) (m : Market) (mid : Nat) (hne : m.id ≠ mid) :
    ({ w with markets := w.markets ++ [m] } : World).market! mid = w.market! mid := by
  unfold market! market?
  simp only
  rw [List.find?_append]
  cases w.markets.find? (fun x => decide (x.id = mid)) with
  | some x => rfl
  | none => simp [hne]

theorem market!_missing (w : World) (mid : Nat) (h : (w.market? mid).isNone = true) : w.market! mid = default := by
  unfold market!; rw [Option.isNone_iff_eq_none.mp h]; rfl

/-- a new market without orders joins the list: no lookup shows another blotter or live list than before -/
theorem market!_appendNew (w : World) (m : Market) (hnew : (w.market? m.id).isNone = true) (hb : m.blotter = []) (hl : m.live = []) (mid : Nat) :
    let w' : World := { w with markets := w.markets ++ [m] }
    (w'.market! mid).blotter = (w.market! mid).blotter ∧ (w'.market! mid).live = (w.market! mid).live := by
  intro w'
  by_cases e : m.id = mid
  · -- the market did not exist: its blotter was (the default's) empty one and is empty now
    have h1 : w'.market! mid = m := by
      unfold market! market?
      simp only [w']
      rw [List.find?_append, show w.markets.find? (fun x => decide (x.id = mid)) = none from e ▸ Option.isNone_iff_eq_none.mp hnew]
      simp [e]
    rw [h1, ← e, market!_missing w m.id hnew, hb, hl]
    exact ⟨rfl, rfl⟩
  · rw [market!_append_other w m mid e]
    exact ⟨rfl, rfl⟩

theorem market!_mem_or_default (w : World) (mid : Nat) : w.market! mid ∈ w.markets ∨ w.market! mid = default := by
  unfold market! market?
  cases h : w.markets.find? (fun x => decide (x.id = mid)) with
  | none => right; rfl
  | some m => left; exact List.mem_of_find?_eq_some h

end Flumine.OL
