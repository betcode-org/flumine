/- Lemmas/Cents.lean — 2dp amounts ("cents") and further facts about `round2`. -/
import Flumine.Num
import Flumine.Lemmas.Round
import Mathlib.Tactic.Linarith
import Mathlib.Tactic.Ring
import Mathlib.Tactic.SplitIfs
namespace Flumine

/-- an amount with at most two decimals -/
def IsCents (x : Rat) : Prop := ∃ n : Int, x = (n : Rat) / 100

theorem IsCents.zero : IsCents 0 := ⟨0, by simp⟩

theorem IsCents.add {x y : Rat} (hx : IsCents x) (hy : IsCents y) : IsCents (x + y) := by
  obtain ⟨a, rfl⟩ := hx; obtain ⟨b, rfl⟩ := hy
  exact ⟨a + b, by push_cast; ring⟩

theorem IsCents.neg {x : Rat} (hx : IsCents x) : IsCents (-x) := by
  obtain ⟨a, rfl⟩ := hx
  exact ⟨-a, by push_cast; ring⟩

theorem IsCents.sub {x y : Rat} (hx : IsCents x) (hy : IsCents y) : IsCents (x - y) :=
  sub_eq_add_neg x y ▸ hx.add hy.neg

theorem IsCents.ratMax {x y : Rat} (hx : IsCents x) (hy : IsCents y) : IsCents (ratMax x y) := by
  unfold Flumine.ratMax; split_ifs <;> assumption

theorem IsCents.ratMin {x y : Rat} (hx : IsCents x) (hy : IsCents y) : IsCents (ratMin x y) := by
  unfold Flumine.ratMin; split_ifs <;> assumption

theorem roundHalfEven_int (n : Int) : roundHalfEven (n : Rat) = n :=
  roundHalfEven_eq (by norm_num [IsRoundHalfEven])

theorem round2_isCents (x : Rat) : IsCents (round2 x) := ⟨roundHalfEven (x * 100), rfl⟩

theorem round2_of_isCents {x : Rat} (hx : IsCents x) : round2 x = x := by
  obtain ⟨n, rfl⟩ := hx
  unfold round2
  have : (n : Rat) / 100 * 100 = (n : Rat) := by ring
  rw [this, roundHalfEven_int]

theorem round2_idem (x : Rat) : round2 (round2 x) = round2 x := round2_of_isCents (round2_isCents x)

theorem round2_zero : round2 0 = 0 := round2_of_isCents IsCents.zero

theorem roundHalfEven_mono {x y : Rat} (h : x ≤ y) : roundHalfEven x ≤ roundHalfEven y :=
  (roundHalfEven_spec x).mono (roundHalfEven_spec y) h

theorem round2_mono {x y : Rat} (h : x ≤ y) : round2 x ≤ round2 y :=
  div_le_div_of_nonneg_right
    (Int.cast_le.mpr (roundHalfEven_mono (mul_le_mul_of_nonneg_right h (by norm_num)))) (by norm_num)

theorem round2_nonneg {x : Rat} (h : 0 ≤ x) : 0 ≤ round2 x := by
  have := round2_mono h
  rwa [round2_zero] at this

theorem roundHalfEven_small (y : Rat) (h1 : -(1 / 2) ≤ y) (h2 : y ≤ 1 / 2) : roundHalfEven y = 0 :=
  roundHalfEven_eq ⟨by rwa [Int.cast_zero, sub_zero], by rwa [Int.cast_zero, sub_zero], fun _ => rfl⟩

theorem round2_residual (x : Rat) : round2 (x - round2 x) = 0 := by
  -- times 100, what rounding leaves over is the residual of the specification
  obtain ⟨h1, h2, -⟩ := roundHalfEven_spec (x * 100)
  have e : (x - round2 x) * 100 = x * 100 - roundHalfEven (x * 100) := by
    rw [round2, sub_mul, div_mul_cancel₀ _ (by norm_num)]
  rw [round2, e, roundHalfEven_small _ h1 h2, Int.cast_zero, zero_div]

end Flumine
