/- Lemmas/Packs.lean — how a transaction's pending list becomes packages: `utils.chunks`, the grouping by market version (a fold of
   `gstep` over an association list whose keys stay distinct), and what `packsOf` yields: bounded, non-empty packages of requested
   orders (`packs_sound`) that hold between them a permutation of the requests (`packs_perm`).  Props/C02.lean states the property. -/
import Flumine.Txn
import Flumine.Lemmas.ListAux
namespace Flumine.Packs
open Flumine.World

/-! ### chunks: `utils.chunks(l, n)` -/

theorem chunks_flatten {α} (l : List α) (n : Nat) : (chunks l n).flatten = l := by
  fun_induction chunks l n with
  | case1 h => simp
  | case2 l h hl => simp
  | case3 l h _ ih => rw [List.flatten_cons, ih, List.take_append_drop]

theorem chunks_bound {α} (l : List α) (n : Nat) (hn : 0 < n) : ∀ c ∈ chunks l n, c.length ≤ n ∧ c ≠ [] := by
  fun_induction chunks l n with
  | case1 h => simp
  | case2 l h hl =>
    rcases h with h | h
    · omega
    · exact absurd h hl
  | case3 l h _ ih =>
    intro c hc
    rcases List.mem_cons.mp hc with rfl | e
    · exact ⟨List.length_take_le n l, mt List.take_eq_nil_iff.mp h⟩
    · exact ih c e

theorem tagged_chunks_flatMap {κ α} (k : κ) (l : List α) (n : Nat) : ((chunks l n).map fun ch => (k, ch)).flatMap (·.2) = l := by
  rw [List.flatMap_map]
  show (chunks l n).flatMap (fun ch => ch) = l
  rw [List.flatMap_id']; exact chunks_flatten l n

/-! ### grouping by market version -/

def keys (g : List (Option Int × List Nat)) : List (Option Int) := g.map (·.1)

/-- the orders filed under version v -/
def getGroup (g : List (Option Int × List Nat)) (v : Option Int) : List Nat :=
  ((g.find? fun x => x.1 = v).map (·.2)).getD []

theorem getGroup_of_mem {g : List (Option Int × List Nat)} (hnd : (keys g).Nodup) {x : Option Int × List Nat} (hx : x ∈ g) :
    getGroup g x.1 = x.2 := by
  unfold getGroup
  rcases find?_key Prod.fst g x.1 with ⟨y, hy, e, hf⟩ | ⟨hv, _⟩
  · rw [hf, eq_of_key_eq Prod.fst hnd hy hx e]; rfl
  · exact absurd (List.mem_map_of_mem hx) hv

def gstep (acc : List (Option Int × List Nat)) (ov : Nat × Option Int) : List (Option Int × List Nat) :=
  if acc.any (·.1 = ov.2) then acc.map fun g => if g.1 = ov.2 then (g.1, g.2 ++ [ov.1]) else g
  else acc ++ [(ov.2, [ov.1])]

theorem groupByVersion_eq (l : List (Nat × Option Int)) : groupByVersion l = l.foldl gstep [] := rfl

theorem any_key_iff (acc : List (Option Int × List Nat)) (v : Option Int) : acc.any (·.1 = v) = true ↔ v ∈ keys acc := by
  simp only [keys, List.any_eq_true, decide_eq_true_eq, List.mem_map]

theorem gstep_keys (acc : List (Option Int × List Nat)) (ov : Nat × Option Int) :
    keys (gstep acc ov) = if ov.2 ∈ keys acc then keys acc else keys acc ++ [ov.2] := by
  unfold gstep
  by_cases h : acc.any (·.1 = ov.2) = true
  · rw [if_pos h, if_pos ((any_key_iff acc ov.2).mp h)]
    exact map_map_of_keeps _ _ _ fun g => by split <;> rfl
  · rw [if_neg h, if_neg (mt (any_key_iff acc ov.2).mpr h)]; simp [keys]

theorem gstep_nodup (acc : List (Option Int × List Nat)) (ov : Nat × Option Int) (h : (keys acc).Nodup) :
    (keys (gstep acc ov)).Nodup := by
  rw [gstep_keys]
  split
  · exact h
  · exact nodup_snoc h ‹_›

theorem gstep_group (acc : List (Option Int × List Nat)) (ov : Nat × Option Int) (v : Option Int) :
    getGroup (gstep acc ov) v = getGroup acc v ++ (if ov.2 = v then [ov.1] else []) := by
  unfold gstep getGroup
  by_cases h : ov.2 ∈ keys acc
  · -- the row found under `v` is the row rewritten iff `v` is `ov.2`
    rw [if_pos ((any_key_iff acc ov.2).mpr h), find?_map_update Prod.fst acc _ (fun x => by split <;> rfl) v]
    rcases find?_key Prod.fst acc v with ⟨g, _, rfl, hf⟩ | ⟨hv, hf⟩ <;> rw [hf]
    · simp only [Option.map_some, Option.getD_some]
      by_cases e : ov.2 = g.1
      · rw [if_pos e.symm, if_pos e]
      · rw [if_neg (Ne.symm e), if_neg e, List.append_nil]
    · rw [if_neg (ne_of_mem_of_not_mem h hv)]; rfl
  · -- a new row at the end: it is found under `v` only if no row of `acc` is
    rw [if_neg (mt (any_key_iff acc ov.2).mp h), List.find?_append]
    rcases find?_key Prod.fst acc v with ⟨g, hg, rfl, hf⟩ | ⟨_, hf⟩ <;> rw [hf]
    · rw [if_neg (ne_of_mem_of_not_mem (List.mem_map_of_mem hg) h).symm, List.append_nil]; rfl
    · by_cases e : ov.2 = v <;> simp [e]

theorem foldl_gstep (l : List (Nat × Option Int)) (acc : List (Option Int × List Nat)) (h : (keys acc).Nodup) :
    (keys (l.foldl gstep acc)).Nodup ∧
    ∀ v, getGroup (l.foldl gstep acc) v = getGroup acc v ++ (l.filter fun ov => ov.2 = v).map (·.1) := by
  induction l generalizing acc with
  | nil => exact ⟨h, fun v => by simp⟩
  | cons ov l ih =>
    obtain ⟨h1, h2⟩ := ih (gstep acc ov) (gstep_nodup acc ov h)
    refine ⟨h1, fun v => ?_⟩
    rw [List.foldl_cons, h2 v, gstep_group, List.filter_cons]
    by_cases e : ov.2 = v <;> simp [e]

/-- C02.4a one group per market version, holding exactly the requests of that version in request order -/
theorem groupByVersion_spec (l : List (Nat × Option Int)) :
    (keys (groupByVersion l)).Nodup ∧
    ∀ v, getGroup (groupByVersion l) v = (l.filter fun ov => ov.2 = v).map (·.1) := by
  rw [groupByVersion_eq]
  have := foldl_gstep l [] (by simp [keys])
  exact ⟨this.1, fun v => by rw [this.2 v]; simp [getGroup]⟩

/-! ### packages -/

theorem packLimit_pos (k : PackKind) : 0 < packLimit k := by cases k <;> decide

theorem packs_sound (pend : List (Nat × Option Int)) (kind : PackKind) :
    ∀ p ∈ packsOf pend kind, p.2.length ≤ packLimit kind ∧ p.2 ≠ [] ∧ ∀ o ∈ p.2, (o, p.1) ∈ pend := by
  intro p hp
  unfold packsOf at hp
  obtain ⟨g, hg, hp⟩ := List.mem_flatMap.mp hp
  obtain ⟨ch, hch, rfl⟩ := List.mem_map.mp hp
  have hb := chunks_bound g.2 (packLimit kind) (packLimit_pos kind) ch hch
  refine ⟨hb.1, hb.2, fun o ho => ?_⟩
  -- o ∈ ch ⊆ g.2, the requests of version g.1
  have hog : o ∈ g.2 := chunks_flatten g.2 (packLimit kind) ▸ List.mem_flatten.mpr ⟨ch, hch, ho⟩
  obtain ⟨hnd, hspec⟩ := groupByVersion_spec pend
  rw [← getGroup_of_mem hnd hg, hspec] at hog
  obtain ⟨ov, hov, rfl⟩ := List.mem_map.mp hog
  obtain ⟨hm, hv⟩ := List.mem_filter.mp hov
  exact of_decide_eq_true hv ▸ hm

/-! ### every requested order ends up in exactly one package (multiset form) -/

theorem gstep_perm (acc : List (Option Int × List Nat)) (ov : Nat × Option Int) (hn : (keys acc).Nodup) :
    ((gstep acc ov).flatMap (·.2)).Perm (acc.flatMap (·.2) ++ [ov.1]) := by
  unfold gstep
  split
  · rename_i hany
    obtain ⟨g, hg, hk⟩ := List.any_eq_true.mp hany
    have hk : g.1 = ov.2 := of_decide_eq_true hk
    -- every row keeps its orders and the rows with key `ov.2` gain `ov.1`: that is one row, the keys being distinct
    calc (acc.map fun g => if g.1 = ov.2 then (g.1, g.2 ++ [ov.1]) else g).flatMap (·.2)
        = acc.flatMap fun x => x.2 ++ if x.1 = ov.2 then [ov.1] else [] := by
          rw [List.flatMap_map]
          exact flatMap_congr fun x _ => by split <;> simp
      List.Perm _ (acc.flatMap (·.2) ++ acc.flatMap fun x => if x.1 = ov.2 then [ov.1] else []) := flatMap_append_perm ..
      _ = acc.flatMap (·.2) ++ [ov.1] := by
          rw [flatMap_eq_of_key Prod.fst _ hg hn fun x _ hx => if_neg (hk ▸ hx), if_pos hk]
  · rw [List.flatMap_append]
    simp

theorem foldl_gstep_perm (l : List (Nat × Option Int)) (acc : List (Option Int × List Nat)) (h : (keys acc).Nodup) :
    ((l.foldl gstep acc).flatMap (·.2)).Perm (acc.flatMap (·.2) ++ l.map (·.1)) := by
  induction l generalizing acc with
  | nil => simp
  | cons ov l ih =>
    rw [List.foldl_cons]
    refine (ih (gstep acc ov) (gstep_nodup acc ov h)).trans ?_
    rw [List.map_cons]
    have := (gstep_perm acc ov h).append_right (l.map (·.1))
    simpa [List.append_assoc] using this

theorem groupByVersion_perm (l : List (Nat × Option Int)) : ((groupByVersion l).flatMap (·.2)).Perm (l.map (·.1)) := by
  rw [groupByVersion_eq]
  simpa using foldl_gstep_perm l [] (by simp [keys])

theorem packs_perm (pend : List (Nat × Option Int)) (kind : PackKind) :
    ((packsOf pend kind).flatMap (·.2)).Perm (pend.map (·.1)) := by
  unfold packsOf
  rw [List.flatMap_assoc, flatMap_congr fun g _ => tagged_chunks_flatMap g.1 g.2 (packLimit kind)]
  exact groupByVersion_perm pend

end Flumine.Packs
