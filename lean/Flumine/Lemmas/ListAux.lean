/- Lemmas/ListAux.lean — list facts about keyed rows that are not in core: a lookup after a key-preserving rewrite of
   the rows, a `flatMap` whose parts are empty except for the row with a given key, filters and folds that skip rows,
   selections of the rows of a duplicate-free concatenation. -/
namespace Flumine

theorem map_map_of_keeps {α β} (l : List α) (g : α → α) (π : α → β) (hg : ∀ x, π (g x) = π x) : (l.map g).map π = l.map π := by
  rw [List.map_map]; exact List.map_congr_left fun x _ => hg x

theorem find?_map_update {α κ} [DecidableEq κ] (key : α → κ) (l : List α) (g : α → α) (hg : ∀ x, key (g x) = key x) (b : κ) :
    (l.map g).find? (fun x => decide (key x = b)) = (l.find? (fun x => decide (key x = b))).map g := by
  rw [List.find?_map]
  congr 2
  funext x
  simp only [Function.comp, hg]

theorem find?_key {α κ} [DecidableEq κ] (key : α → κ) (l : List α) (b : κ) :
    (∃ x ∈ l, key x = b ∧ l.find? (fun x => decide (key x = b)) = some x) ∨
    (b ∉ l.map key ∧ l.find? (fun x => decide (key x = b)) = none) := by
  cases hf : l.find? (fun x => decide (key x = b)) with
  | some x => exact .inl ⟨x, List.mem_of_find?_eq_some hf, by simpa using List.find?_some hf, rfl⟩
  | none =>
    refine .inr ⟨fun hb => ?_, rfl⟩
    obtain ⟨x, hx, e⟩ := List.mem_map.mp hb
    exact of_decide_eq_false (Bool.eq_false_iff.mpr (List.find?_eq_none.mp hf x hx)) e

theorem eq_of_key_eq {α κ} (key : α → κ) {l : List α} (hnd : (l.map key).Nodup) {x y : α} (hx : x ∈ l) (hy : y ∈ l)
    (h : key x = key y) : x = y := by
  induction l with
  | nil => cases hx
  | cons a as ih =>
    have hn := List.nodup_cons.mp hnd
    rcases List.mem_cons.mp hx with e1 | e1 <;> rcases List.mem_cons.mp hy with e2 | e2
    · rw [e1, e2]
    · exact absurd (List.mem_map.mpr ⟨y, e2, by rw [← h, e1]⟩) hn.1
    · exact absurd (List.mem_map.mpr ⟨x, e1, by rw [h, e2]⟩) hn.1
    · exact ih hn.2 e1 e2

theorem nodup_snoc {α} {l : List α} {a : α} (h : l.Nodup) (ha : a ∉ l) : (l ++ [a]).Nodup :=
  List.nodup_append.mpr ⟨h, List.pairwise_singleton _ _, fun _ hx _ hy e => ha (List.mem_singleton.mp hy ▸ e ▸ hx)⟩

theorem flatMap_congr {α β} {l : List α} {f g : α → List β} (h : ∀ x ∈ l, f x = g x) : l.flatMap f = l.flatMap g := by
  rw [List.flatMap_def, List.flatMap_def, List.map_congr_left h]

theorem flatMap_append_perm {α β} (l : List α) (f g : α → List β) :
    (l.flatMap fun x => f x ++ g x).Perm (l.flatMap f ++ l.flatMap g) := by
  induction l with
  | nil => exact .refl _
  | cons a as ih =>
    rw [List.flatMap_cons, List.flatMap_cons, List.flatMap_cons, List.append_assoc, List.append_assoc]
    exact List.Perm.append_left _ ((List.Perm.append_left _ ih).trans (List.perm_append_comm_assoc ..))

theorem flatMap_eq_of_key {α β κ} (key : α → κ) (g : α → List β) {l : List α} {a : α} (ha : a ∈ l)
    (hnd : (l.map key).Nodup) (h : ∀ x ∈ l, key x ≠ key a → g x = []) : l.flatMap g = g a := by
  induction l with
  | nil => cases ha
  | cons x xs ih =>
    have hn := List.nodup_cons.mp hnd
    have hx : ∀ y ∈ xs, key y ≠ key x := fun y hy e => hn.1 (List.mem_map.mpr ⟨y, hy, e⟩)
    rw [List.flatMap_cons]
    rcases List.mem_cons.mp ha with e | e
    · subst e
      rw [List.flatMap_eq_nil_iff.mpr fun y hy => h y (List.mem_cons_of_mem _ hy) (hx y hy), List.append_nil]
    · rw [h x List.mem_cons_self (fun e' => hx a e e'.symm), List.nil_append]
      exact ih e hn.2 fun y hy => h y (List.mem_cons_of_mem _ hy)

theorem filter_map_congr {α β} (p : β → Bool) (f g : α → β) (l : List α)
    (h : ∀ x ∈ l, f x = g x ∨ (p (f x) = false ∧ p (g x) = false)) : (l.map f).filter p = (l.map g).filter p := by
  induction l with
  | nil => rfl
  | cons x xs ih =>
    have ih := ih fun y hy => h y (List.mem_cons_of_mem _ hy)
    rcases h x List.mem_cons_self with e | ⟨e1, e2⟩
    · rw [List.map_cons, List.map_cons, e, List.filter_cons, List.filter_cons, ih]
    · rw [List.map_cons, List.map_cons, List.filter_cons_of_neg (by simp [e1]), List.filter_cons_of_neg (by simp [e2]), ih]

theorem foldl_eq_foldl_filter {α β} (f g : β → α → β) (p : α → Bool) (hskip : ∀ b x, p x = false → f b x = b)
    (hkeep : ∀ b x, p x = true → f b x = g b x) (l : List α) (b : β) : l.foldl f b = (l.filter p).foldl g b := by
  induction l generalizing b with
  | nil => rfl
  | cons x xs ih =>
    cases h : p x
    · rw [List.foldl_cons, hskip b x h, List.filter_cons_of_neg (by simp [h]), ih]
    · rw [List.foldl_cons, hkeep b x h, List.filter_cons_of_pos h, List.foldl_cons, ih]

/-! ### selections of the rows of a concatenation -/

theorem Fl.sublist_flatMap_filter {α β} (l : List α) (f : α → List β) (r : α → Bool) : ((l.filter r).flatMap f).Sublist (l.flatMap f) := by
  induction l with
  | nil => exact List.Sublist.refl _
  | cons a as ih =>
    rw [List.filter_cons, List.flatMap_cons]
    split
    · rw [List.flatMap_cons]; exact List.Sublist.append (List.Sublist.refl _) ih
    · exact ih.trans (List.sublist_append_right _ _)

theorem Fl.disjoint_filters {α β} (l : List α) (f : α → List β) (c r : α → Bool) (hcr : ∀ x ∈ l, c x = true → r x = true → False)
    (hn : (l.flatMap f).Nodup) : ∀ x, x ∈ (l.filter c).flatMap f → x ∈ (l.filter r).flatMap f → False := by
  intro x h1 h2
  obtain ⟨p, hp, hxp⟩ := List.mem_flatMap.mp h1
  obtain ⟨q, hq, hxq⟩ := List.mem_flatMap.mp h2
  obtain ⟨hp, cp⟩ := List.mem_filter.mp hp
  obtain ⟨hq, rq⟩ := List.mem_filter.mp hq
  by_cases e : p = q
  · subst e; exact hcr p hp cp rq
  · -- different rows of a duplicate-free concatenation share no element
    have hd := (List.pairwise_flatMap.mp hn).2
    exact List.Pairwise.forall_of_forall_of_flip (R := fun a b => a ≠ b → ∀ x ∈ f a, ∀ y ∈ f b, x ≠ y) (fun _ _ h => absurd rfl h)
      (hd.imp fun {a b} h (_ : a ≠ b) => h) (hd.imp fun {a b} h (_ : b ≠ a) x hx y hy e => h y hy x hx e.symm) hp hq e x hxp x hxq rfl

end Flumine
