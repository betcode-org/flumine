/- Lemmas/Settle.lean — the response handlers of the simulated execution touch the status of the order they
   handle (and of the replacement order they create) and of no other order; the order they handle ends settled. -/
import Flumine.Lemmas.Final
import Flumine.Props.C03
namespace Flumine.Settle
open Flumine.World Flumine.OL Flumine.Ids Flumine.Inv  -- a bare `Inv w` is first tried as Mathlib's class `Inv`: helper statements write `Inv.Inv`
open Flumine.Rules (Handlers Requests)

def Same (x : Nat) (w w' : World) : Prop :=
  (w'.order! x).status = (w.order! x).status ∧ (w'.order! x).complete = (w.order! x).complete

theorem same_refl (x : Nat) (w : World) : Same x w w := ⟨rfl, rfl⟩
theorem same_trans {x : Nat} {a b c : World} (h1 : Same x a b) (h2 : Same x b c) : Same x a c := ⟨h2.1.trans h1.1, h2.2.trans h1.2⟩
theorem same_of_core {x : Nat} {w w' : World} (h : (w'.order! x).core = (w.order! x).core) : Same x w w' :=
  ⟨Order.status_of_core h, Order.complete_of_core h⟩
theorem same_of_eq {x : Nat} {w w' : World} (h : w'.order! x = w.order! x) : Same x w w' := same_of_core (congrArg Order.core h)

/-- from w to w' only order `a` (and orders that did not exist in the base world w0) changed status -/
def Fr (w0 : World) (a : Nat) (w w' : World) : Prop := Keeps w w' ∧ ∀ x, x ≠ a → HasOrder w0 x → Same x w w'

theorem Fr.refl (w0 : World) (a : Nat) (w : World) : Fr w0 a w w := ⟨Keeps.refl w, fun _ _ _ => same_refl _ _⟩

theorem Fr.hasOrder {w0 : World} {a : Nat} {w w' : World} (h : Fr w0 a w w') (x : Nat) (hx : HasOrder w x) : HasOrder w' x := h.1.hasOrder x hx

theorem fr_addTransaction (w0 : World) (a : Nat) (w : World) (c n : Nat) (f : Bool) : Fr w0 a w (w.addTransaction c n f) :=
  ⟨Keeps.of_eq rfl, fun _ _ _ => ⟨rfl, rfl⟩⟩

/-- `Fr` for several orders at once -/
def FrX (w0 : World) (X : List Nat) (w w' : World) : Prop := Keeps w w' ∧ ∀ x, x ∉ X → HasOrder w0 x → Same x w w'

theorem FrX.trans {w0 : World} {X : List Nat} {a b c : World} (h1 : FrX w0 X a b) (h2 : FrX w0 X b c) : FrX w0 X a c :=
  ⟨h1.1.trans h2.1, fun x hx h0 => same_trans (h1.2 x hx h0) (h2.2 x hx h0)⟩
theorem FrX.fr {w0 : World} {a : Nat} {w w' : World} (h : FrX w0 [a] w w') : Fr w0 a w w' :=
  ⟨h.1, fun x hx => h.2 x (fun hm => hx (List.mem_singleton.mp hm))⟩

theorem _root_.Flumine.Calm.frx {w w' : World} (h : Calm w w') (w0 : World) (X : List Nat) : FrX w0 X w w' :=
  ⟨h.keeps, fun x _ _ => same_of_core (h.order x)⟩

/-- `b` may be touched: it exists, and is one of X or an order the base world did not have -/
def Mine (w0 : World) (X : List Nat) (w : World) (b : Nat) : Prop := HasOrder w b ∧ (b ∈ X ∨ ¬ HasOrder w0 b)

theorem Mine.ne {w0 : World} {X : List Nat} {w : World} {b x : Nat} (h : Mine w0 X w b) (hx : x ∉ X) (h0 : HasOrder w0 x) : x ≠ b := by
  rintro rfl
  rcases h.2 with e | e
  · exact hx e
  · exact e h0

theorem Mine.keeps {w0 : World} {X : List Nat} {w w' : World} {b : Nat} (h : Mine w0 X w b) (k : Keeps w w') : Mine w0 X w' b :=
  ⟨k.hasOrder b h.1, h.2⟩

theorem mine_self {w0 w : World} {b : Nat} (hb : HasOrder w b) : Mine w0 [b] w b := ⟨hb, Or.inl (List.mem_singleton.mpr rfl)⟩

theorem frx_orderUpdateStatus (w0 : World) (X : List Nat) (w : World) (b : Nat) (s : Status) (hb : Mine w0 X w b) :
    FrX w0 X w (w.orderUpdateStatus b s) :=
  ⟨(eff_orderUpdateStatus w b s).keeps, fun x hx h0 => same_of_eq (orderUpdateStatus_other w x b s hb.1 (hb.ne hx h0))⟩

theorem frx_orderExecutable (w0 : World) (X : List Nat) (w : World) (b : Nat) (hb : Mine w0 X w b) : FrX w0 X w (w.orderExecutable b) :=
  Rules.orderExecutable (fun h => h.frx w0 X) FrX.trans w b fun _ => frx_orderUpdateStatus w0 X w b .executable hb

theorem frx_orderExecutionComplete (w0 : World) (X : List Nat) (w : World) (b : Nat) (hb : Mine w0 X w b) :
    FrX w0 X w (w.orderExecutionComplete b) :=
  Rules.orderExecutionComplete (fun h => h.frx w0 X) FrX.trans w b (frx_orderUpdateStatus w0 X w b .executionComplete hb)

theorem frx_orderViolation (w0 : World) (X : List Nat) (w : World) (b : Nat) (msg : String) (hb : Mine w0 X w b) :
    FrX w0 X w (w.orderViolation b msg) :=
  Rules.orderViolation (fun h => h.frx w0 X) FrX.trans w b msg fun _ => frx_orderUpdateStatus w0 X w b .violation hb

theorem frx_filePlacement (w0 : World) (X : List Nat) (w : World) (t : Txn) (b : Nat) (v : Option Int) (ex : Bool) (hb : Mine w0 X w b) :
    FrX w0 X w (w.filePlacement t b v ex) :=
  Rules.filePlacement (fun h => h.frx w0 X) FrX.trans t b v ex (A := fun w => Mine w0 X w b) (P := fun _ => True)
    (fun k h => h.keeps k.keeps) (fun {w} h => ⟨frx_orderUpdateStatus w0 X w b .pending h, trivial⟩)
    (fun {w} _ => ⟨(eff_blotterAdd w t.market b).keeps, fun x _ _ => same_of_core ((eff_blotterAdd w t.market b).cores x)⟩) w hb

theorem frx_txnPlace (w0 : World) (X : List Nat) (w : World) (t : Txn) (b : Nat) (v : Option Int) (ex force : Bool) (hb : Mine w0 X w b) :
    FrX w0 X w (w.txnPlace t b v ex force).1 :=
  Requests.txnPlace (B := Mine w0 X) ⟨fun h => h.frx w0 X, FrX.trans, fun k h => h.keeps k.1,
    fun _ h => frx_orderViolation w0 X _ _ _ h⟩ w t b v ex force
    (fun h _ _ => frx_filePlacement w0 X _ t b v ex h) hb

/-- the handlers, relative to the base world w0 (well-formed, its orders kept: what makes a replacement order new) -/
theorem frHandlers (w0 : World) (X : List Nat) :
    Handlers (FrX w0 X) (fun w => Inv.Inv w0 ∧ Keeps w0 w) (fun _ => Mine w0 X) (fun _ => Mine w0 X) (fun _ => Mine w0 X) where
  calm := fun h => h.frx w0 X
  trans := FrX.trans
  hcalm := fun k h => h.keeps k.keeps
  exe := fun h => frx_orderExecutable w0 X _ _ h
  ec := fun h => frx_orderExecutionComplete w0 X _ _ h
  gmono := fun k h => ⟨h.1, h.2.trans k.1⟩
  hmono := fun k h => h.keeps k.1
  ncalm := fun k h => h.keeps k.keeps
  create := fun h _ hG _ =>
    ⟨⟨h.keeps, fun x _ h0 => same_of_eq (h.order! (hG.2.hasOrder x h0))⟩, h.has, Or.inr (h.id ▸ fresh_index w0 _ hG.1 hG.2)⟩
  ecN := fun h => frx_orderExecutionComplete w0 X _ _ h
  placeN := fun {_ w r} _ h =>
    have k := frx_txnPlace w0 X w _ r none false false h
    ⟨k, h.keeps k.1⟩
  exeP := fun h => frx_orderExecutable w0 X _ _ h

/-! ### the handler steps, for the single order they handle -/

theorem fr_placeStep (p : Package) (w : World) (a : Nat) (ho : HasOrder w a) : Fr w a w (placeStep p w a) :=
  ((frHandlers w [a]).placeStep p w a (mine_self ho)).fr
theorem fr_cancelStep (p : Package) (acc : World × Nat) (a : Nat) (ho : HasOrder acc.1 a) : Fr acc.1 a acc.1 (cancelStep p acc a).1 := by
  rw [cancelStep_fst]; exact ((frHandlers acc.1 [a]).cancelOne p acc.1 a (mine_self ho)).fr
theorem fr_updateStep (p : Package) (acc : World × Nat) (a : Nat) (ho : HasOrder acc.1 a) : Fr acc.1 a acc.1 (updateStep p acc a).1 := by
  rw [updateStep_fst]; exact ((frHandlers acc.1 [a]).updateOne p acc.1 a (mine_self ho)).fr
theorem fr_replaceStep (p : Package) (acc : World × Nat) (pr : Nat × Option Rat) (ho : HasOrder acc.1 pr.1) (hI : Inv.Inv acc.1) :
    Fr acc.1 pr.1 acc.1 (replaceStep p acc pr).1 :=
  ((frHandlers acc.1 [pr.1]).replaceStep p acc pr ⟨hI, Keeps.refl acc.1⟩ (mine_self ho)).fr

theorem same_executePackage (w : World) (p : Package) (hI : Inv.Inv w) (hp : ∀ oid ∈ p.orders, HasOrder w oid)
    (x : Nat) (hx : HasOrder w x) (hnp : x ∉ p.orders) : Same x w (w.executePackage p) :=
  ((frHandlers w p.orders).executePackage w p ⟨hI, Keeps.refl w⟩ fun a ha => ⟨hp a ha, Or.inl ha⟩).2 x hnp hx

theorem same_execAll (l : List Package) (w : World) (hI : Inv.Inv w) (hl : ∀ p ∈ l, ∀ oid ∈ p.orders, HasOrder w oid)
    (x : Nat) (hx : HasOrder w x) (hnk : ∀ p ∈ l, x ∉ p.orders) : Same x w (l.foldl (fun w p => w.executePackage p) w) :=
  ((frHandlers w (l.flatMap (·.orders))).execAll l w ⟨hI, Keeps.refl w⟩ fun p hp a ha => ⟨hl p hp a ha, Or.inl (List.mem_flatMap.mpr ⟨p, hp, ha⟩)⟩).2 x
    (fun hm => by obtain ⟨p, hp, hxp⟩ := List.mem_flatMap.mp hm; exact hnk p hp hxp) hx

/-! ### the order handled ends settled -/

/-- what a handler leaves: EXECUTABLE, EXECUTION_COMPLETE, or otherwise complete.  Not in flight, for an order whose `complete`
    flag is that of its status (`Strand.inFl_not_settled`) -/
def Settled (o : Order) : Prop := o.status = some .executable ∨ o.status = some .executionComplete ∨ o.complete = true

theorem settled_of_outcome (o o' : Order) (h : C03.HandlerOutcome o o') : Settled o' := by
  cases h with
  | final _ h1 _ _ => exact Or.inr (Or.inr h1)
  | toExecutable _ h2 _ => exact Or.inl h2
  | toComplete _ h2 _ => exact Or.inr (Or.inl h2)

theorem settled_same {x : Nat} {w w' : World} (h : Same x w w') (hs : Settled (w.order! x)) : Settled (w'.order! x) := by
  unfold Settled at hs ⊢
  rw [h.1, h.2]; exact hs

theorem settled_executable (w : World) (a : Nat) (ha : HasOrder w a) : Settled ((w.orderExecutable a).order! a) := by
  rw [executable_self w a ha]
  split
  · rename_i hc; exact Or.inr (Or.inr hc)
  · exact Or.inl rfl

/-! An order that is EXECUTION_COMPLETE and complete stays so whatever a handler does afterwards (`executable()` on it changes
    nothing, a placement of it is refused). -/

def Done (o : Order) : Prop := o.status = some .executionComplete ∧ o.complete = true

theorem done_hasOrder {w : World} {a : Nat} (hd : Done (w.order! a)) : HasOrder w a :=
  Classical.byContradiction fun ha => by rw [order!_missing w a ha] at hd; cases hd.1

theorem done_same {x : Nat} {w w' : World} (h : Same x w w') (hd : Done (w.order! x)) : Done (w'.order! x) := by
  unfold Done; rw [h.1, h.2]; exact hd

def Stays (a : Nat) (w w' : World) : Prop := Keeps w w' ∧ (Done (w.order! a) → Done (w'.order! a))

theorem stays_step {a b : Nat} {w w' : World} (hfr : FrX w [b] w w') (hself : Done (w.order! b) → Done (w'.order! b)) : Stays a w w' := by
  refine ⟨hfr.1, fun hd => ?_⟩
  by_cases e : a = b
  · subst e; exact hself hd
  · exact done_same (hfr.2 a (fun hm => e (List.mem_singleton.mp hm)) (done_hasOrder hd)) hd

theorem stays_calm {a : Nat} {w w' : World} (k : Calm w w') : Stays a w w' :=
  ⟨k.keeps, done_same (same_of_core (k.order a))⟩

theorem Stays.trans {a : Nat} {x y z : World} (h1 : Stays a x y) (h2 : Stays a y z) : Stays a x z := ⟨h1.1.trans h2.1, fun hd => h2.2 (h1.2 hd)⟩

theorem stays_executable (a : Nat) (w : World) (b : Nat) (hb : HasOrder w b) : Stays a w (w.orderExecutable b) :=
  Rules.orderExecutable stays_calm Stays.trans w b fun hnc =>
    stays_step (frx_orderUpdateStatus w [b] w b .executable (mine_self hb)) fun hd => absurd hd.2 hnc

theorem stays_executionComplete (a : Nat) (w : World) (b : Nat) (hb : HasOrder w b) : Stays a w (w.orderExecutionComplete b) :=
  Rules.orderExecutionComplete stays_calm Stays.trans w b
    (stays_step (frx_orderUpdateStatus w [b] w b .executionComplete (mine_self hb)) fun _ => by
      rw [orderUpdateStatus_self w b _ hb]; exact ⟨rfl, rfl⟩)

theorem stays_orderViolation (a : Nat) (w : World) (b : Nat) (msg : String) (hb : HasOrder w b) : Stays a w (w.orderViolation b msg) :=
  Rules.orderViolation stays_calm Stays.trans w b msg fun hu =>
    stays_step (frx_orderUpdateStatus w [b] w b .violation (mine_self hb)) fun hd => by
      rcases hu with u | u <;> (rw [hd.1] at u; cases u)

/-- `place_order` refuses an EXECUTION_COMPLETE order -/
theorem stays_txnPlace (a : Nat) (w : World) (t : Txn) (b : Nat) (v : Option Int) (ex force : Bool) (hb : HasOrder w b) :
    Stays a w (w.txnPlace t b v ex force).1 :=
  Requests.txnPlace (B := HasOrder) ⟨stays_calm, Stays.trans, fun k h => k.1.hasOrder _ h, fun _ h => stays_orderViolation a _ _ _ h⟩ w t b v ex force
    (fun {w} h _ hne => stays_step (frx_filePlacement w [b] w t b v ex (mine_self h)) fun hd => absurd hd.1 hne) hb

theorem staysHandlers (a : Nat) :
    Handlers (Stays a) (fun _ => True) (fun _ w b => HasOrder w b) (fun _ w b => HasOrder w b) (fun _ w b => HasOrder w b) where
  calm := stays_calm
  trans := Stays.trans
  hcalm := fun k h => (k.hasOrder _).mpr h
  exe := fun h => stays_executable a _ _ h
  ec := fun h => stays_executionComplete a _ _ h
  gmono := fun _ _ => trivial
  hmono := fun k h => k.1.hasOrder _ h
  ncalm := fun k h => (k.hasOrder _).mpr h
  create := fun h _ _ _ => ⟨⟨h.keeps, fun hd => by rw [h.order! (done_hasOrder hd)]; exact hd⟩, h.has⟩
  ecN := fun h => stays_executionComplete a _ _ h
  placeN := fun {_ w r} _ h =>
    have k := stays_txnPlace a w _ r none false false h
    ⟨k, k.1.hasOrder r h⟩
  exeP := fun h => stays_executable a _ _ h

theorem replacePlace_own (p : Package) (w : World) (o : Order) (a : Nat) (book : Book) (np : Option Rat) (sc : Rat) (failed : Nat)
    (ho : HasOrder w a) : Done ((replacePlace p w o a book np sc failed).1.order! a) := by
  rw [replacePlace_fst]
  have h1 : HasOrder (w.orderExecutionComplete a).bumpBetId a := ((eff_orderExecutionComplete w a).keeps.trans (eff_bumpBetId _).keeps).hasOrder a ho
  refine ((staysHandlers a).replaceRest p _ o a book np sc trivial h1).2 ?_
  rw [order!_congr (w.orderExecutionComplete a) (w.orderExecutionComplete a).bumpBetId rfl a, executionComplete_self w a ho]
  exact ⟨rfl, rfl⟩

theorem replaceStep_own (p : Package) (acc : World × Nat) (pr : Nat × Option Rat) (ho : HasOrder acc.1 pr.1) :
    Settled ((replaceStep p acc pr).1.order! pr.1) := by
  obtain ⟨w2, h2, e | ⟨book, sc, e⟩⟩ := replaceStep_cases p acc pr <;> rw [e]
  · rw [order!_congr _ _ (tradeExit_orders _ _)]; exact settled_executable w2 pr.1 ((h2.hasOrder _).mpr ho)
  · rw [← replacePlace_fst p w2 _ pr.1 book pr.2 sc 0]
    exact Or.inr (Or.inl (replacePlace_own p w2 _ pr.1 book pr.2 sc 0 ((h2.hasOrder _).mpr ho)).1)

/-! ### a fold of handler steps settles every order it handles -/

theorem fold_keeps_settled {σ α} (wof : σ → World) (key : α → Nat) (f : σ → α → σ) (P : World → Prop)
    (hfr : ∀ s a, HasOrder (wof s) (key a) → P (wof s) → Fr (wof s) (key a) (wof s) (wof (f s a)))
    (hP : ∀ s a, HasOrder (wof s) (key a) → P (wof s) → P (wof (f s a)))
    (k : Nat) (l : List α) (s : σ) (hw : P (wof s)) (hl : ∀ a ∈ l, HasOrder (wof s) (key a)) (hk : ∀ a ∈ l, key a ≠ k)
    (hko : HasOrder (wof s) k) (hs : Settled ((wof s).order! k)) : Settled ((wof (l.foldl f s)).order! k) := by
  induction l generalizing s with
  | nil => exact hs
  | cons b rest ih =>
    rw [List.foldl_cons]
    have hb := hl b List.mem_cons_self
    have fr := hfr s b hb hw
    refine ih (f s b) (hP s b hb hw) (fun x hx => fr.hasOrder _ (hl x (List.mem_cons_of_mem _ hx)))
      (fun x hx => hk x (List.mem_cons_of_mem _ hx)) (fr.hasOrder k hko) ?_
    exact settled_same (fr.2 k (fun e => hk b List.mem_cons_self e.symm) hko) hs

theorem fold_settles {σ α} (wof : σ → World) (key : α → Nat) (f : σ → α → σ) (P : World → Prop)
    (hown : ∀ s a, HasOrder (wof s) (key a) → P (wof s) → Settled ((wof (f s a)).order! (key a)))
    (hfr : ∀ s a, HasOrder (wof s) (key a) → P (wof s) → Fr (wof s) (key a) (wof s) (wof (f s a)))
    (hP : ∀ s a, HasOrder (wof s) (key a) → P (wof s) → P (wof (f s a)))
    (l : List α) (s : σ) (hw : P (wof s)) (hl : ∀ a ∈ l, HasOrder (wof s) (key a)) :
    ∀ a ∈ l, Settled ((wof (l.foldl f s)).order! (key a)) := by
  induction l generalizing s with
  | nil => intro a ha; cases ha
  | cons b rest ih =>
    intro a ha
    rw [List.foldl_cons]
    have hb := hl b List.mem_cons_self
    have fr := hfr s b hb hw
    have hl1 : ∀ x ∈ rest, HasOrder (wof (f s b)) (key x) := fun x hx => fr.hasOrder _ (hl x (List.mem_cons_of_mem _ hx))
    -- handled again later: the later step settles it; otherwise this was its last step (so duplicate keys are tolerated)
    by_cases hin : ∃ x ∈ rest, key x = key a
    · obtain ⟨x, hx, e⟩ := hin
      rw [← e]; exact ih (f s b) (hP s b hb hw) hl1 x hx
    · have hab : key a = key b := by
        rcases List.mem_cons.mp ha with e | e
        · rw [e]
        · exact absurd ⟨a, e, rfl⟩ hin
      rw [hab]
      refine fold_keeps_settled wof key f P hfr hP (key b) rest (f s b) (hP s b hb hw) hl1 ?_ (fr.hasOrder _ hb) (hown s b hb hw)
      intro x hx e
      exact hin ⟨x, hx, e.trans hab.symm⟩

/-! ### a whole package -/

/-- what this claims of flumine is said at `C12.package_settles_every_order` -/
theorem package_settles (w : World) (p : Package) (hI : Inv w) (hp : ∀ oid ∈ p.orders, HasOrder w oid) :
    ∀ oid ∈ w.packageOrders p, Settled ((w.executePackage p).order! oid) := by
  have hpo : ∀ oid ∈ w.packageOrders p, HasOrder w oid := fun oid h => hp oid (List.mem_filter.mp h).1
  intro oid hoid
  -- the closing `add_transaction`s touch no order
  rw [order!_congr _ _ (eff_chargeHandler w p).orders]
  unfold handlerLoop
  cases p.kind with
  | place =>
    exact fold_settles (σ := World) (fun s => s) (fun a => a) (placeStep p) (fun _ => True)
      (fun s a h _ => settled_of_outcome _ _ (C03.placeStep_outcome p s a h))
      (fun s a h _ => fr_placeStep p s a h) (fun _ _ _ _ => trivial) (w.packageOrders p) w trivial hpo oid hoid
  | cancel =>
    exact fold_settles (σ := World × Nat) Prod.fst (fun a => a) (cancelStep p) (fun _ => True)
      (fun s a h _ => settled_of_outcome _ _ (C03.cancelStep_outcome p s.1 s.2 a h).1)
      (fun s a h _ => fr_cancelStep p s a h) (fun _ _ _ _ => trivial) (w.packageOrders p) (w, 0) trivial hpo oid hoid
  | update =>
    exact fold_settles (σ := World × Nat) Prod.fst (fun a => a) (updateStep p) (fun _ => True)
      (fun s a h _ => settled_of_outcome _ _ (C03.updateStep_outcome p s.1 s.2 a h).1)
      (fun s a h _ => fr_updateStep p s a h) (fun _ _ _ _ => trivial) (w.packageOrders p) (w, 0) trivial hpo oid hoid
  | replace =>
    have hfr : ∀ (s : World × Nat) (a : Nat × Option Rat), HasOrder s.1 a.1 → Inv.Inv s.1 → Fr s.1 a.1 s.1 (replaceStep p s a).1 :=
      fr_replaceStep p
    have hP : ∀ (s : World × Nat) (a : Nat × Option Rat), HasOrder s.1 a.1 → Inv.Inv s.1 → Inv.Inv (replaceStep p s a).1 :=
      fun s a _ hi => (good_replaceStep p s a).2 hi
    have hlive : ∀ a ∈ w.replaceInstructions p, HasOrder w a.1 := by
      intro a ha
      obtain ⟨x, hx, rfl⟩ := List.mem_map.mp ha
      exact hpo x (List.mem_filter.mp hx).1
    by_cases hec : (w.order! oid).status = some .executionComplete
    · -- completed since the request: no instruction, nothing touches it
      refine fold_keeps_settled (σ := World × Nat) Prod.fst Prod.fst (replaceStep p) Inv hfr hP oid _ (w, 0) hI hlive ?_ (hpo oid hoid) (Or.inr (Or.inl hec))
      intro a ha e
      obtain ⟨x, hx, rfl⟩ := List.mem_map.mp ha
      have e : x = oid := e
      exact of_decide_eq_true (List.mem_filter.mp hx).2 (e ▸ hec)
    · exact fold_settles (σ := World × Nat) Prod.fst Prod.fst (replaceStep p) Inv
        (fun s a h _ => replaceStep_own p s a h) hfr hP _ (w, 0) hI hlive (oid, (w.order! oid).ud.newPrice)
        (List.mem_map.mpr ⟨oid, List.mem_filter.mpr ⟨hoid, decide_eq_true hec⟩, rfl⟩)

end Flumine.Settle
