/- Lemmas/Flight.lean — at most one operation per order is outstanding, in every reachable state.

   An operation is outstanding from the moment a request is accepted (the order id enters the pending list
   of the open transaction), while its package waits in the simulation's handler queue, until the package is
   executed.  `pendIds` lists those ids with multiplicity; the invariant `FI` says that the list has no duplicates,
   and what makes the guards refuse a further request about an order on it.

   Scope: runs in which every request goes through the market the order was created for; the ghost counter
   `World.foreign` counts the requests that do not, and the whole-run theorem assumes it is still 0. -/
import Flumine.Lemmas.Inv
import Flumine.Props.C02
namespace Flumine.Fl
open Flumine.World Flumine.OL Flumine.Ids Flumine.Inv
open Flumine.Rules (Handlers Blotters Requests Carried Acted Accepts orderCancel_accepts orderUpdate_accepts orderReplace_accepts)

def St (w : World) (oid : Nat) : Option Status := (w.order! oid).status

/-- the order is listed in the blotter of the market it was created for -/
def Home (w : World) (oid : Nat) : Prop := oid ∈ (w.market! (w.order! oid).market).blotter

/-- never sent: no status yet, or refused by a control -/
def Unsent (s : Option Status) : Prop := s = none ∨ s = some .violation

/-- how the status of an order of the base world may move in a step that is not a request:
    unchanged, completed, released to EXECUTABLE (only the orders X being handled), or refused before being sent -/
def Moves (X : List Nat) (oid : Nat) (s s' : Option Status) : Prop :=
  s' = s ∨ s' = some .executionComplete ∨ (oid ∈ X ∧ s' = some .executable) ∨ (Unsent s ∧ s' = some .violation)

theorem Moves.trans {X : List Nat} {oid : Nat} {a b c : Option Status} (h1 : Moves X oid a b) (h2 : Moves X oid b c) : Moves X oid a c := by
  rcases h2 with e | e | e | ⟨u, e⟩
  · rw [e]; exact h1
  · exact Or.inr (Or.inl e)
  · exact Or.inr (Or.inr (Or.inl e))
  · rcases h1 with f | f | ⟨_, f⟩ | ⟨v, _⟩
    · rw [f] at u; exact Or.inr (Or.inr (Or.inr ⟨u, e⟩))
    · rw [f] at u; rcases u with u | u <;> cases u
    · rw [f] at u; rcases u with u | u <;> cases u
    · exact Or.inr (Or.inr (Or.inr ⟨v, e⟩))

theorem Moves.ne_executable {X : List Nat} {oid : Nat} {s s' : Option Status} (h : Moves X oid s s') (hX : oid ∉ X)
    (hs : s ≠ some .executable) : s' ≠ some .executable := by
  rcases h with e | e | ⟨e, _⟩ | ⟨_, e⟩
  · rw [e]; exact hs
  · rw [e]; nofun
  · exact absurd e hX
  · rw [e]; nofun

theorem Moves.mono {X Y : List Nat} (hXY : ∀ x ∈ X, x ∈ Y) {oid : Nat} {a b : Option Status} (h : Moves X oid a b) : Moves Y oid a b := by
  rcases h with e | e | ⟨m, e⟩ | e
  · exact Or.inl e
  · exact Or.inr (Or.inl e)
  · exact Or.inr (Or.inr (Or.inl ⟨hXY _ m, e⟩))
  · exact Or.inr (Or.inr (Or.inr e))

/-- markets are never removed -/
def MX (w w' : World) : Prop := ∀ m, (w.market? m).isSome = true → (w'.market? m).isSome = true

theorem MX.refl (w : World) : MX w w := fun _ h => h

theorem MX.trans {a b c : World} (h1 : MX a b) (h2 : MX b c) : MX a c := fun m h => h2 m (h1 m h)

theorem MX.of_mids {w w' : World} (h : w'.mids = w.mids) : MX w w' := fun m hm =>
  (Mids.market?_isSome_iff w' m).mpr (h ▸ (Mids.market?_isSome_iff w m).mp hm)

theorem MX.of_eq {w w' : World} (h : w'.markets = w.markets) : MX w w' := fun m hm => by unfold market? at hm ⊢; rw [h]; exact hm

/-- a step that is not a request about an order of the base world w0; X are the orders being handled.
    `fr`: how the status of an order of w0 may move (`Moves`: only the handled orders are released); `lv`: an order that is
    EXECUTABLE afterwards was so before or is now in its own market's blotter; `bl`: blotters only grow; `mkt`: an order stays
    with its market; `mx`: a market the framework knows stays known; `fg`, `qu`: no foreign request noted, the handler queue
    untouched; `good`: no order lost, well-formedness kept -/
structure Q (w0 : World) (X : List Nat) (w w' : World) : Prop where
  good : Good w w'
  fg : w'.foreign = w.foreign
  qu : w'.queue = w.queue
  mkt : ∀ oid, HasOrder w oid → (w'.order! oid).market = (w.order! oid).market
  bl : ∀ m oid, oid ∈ (w.market! m).blotter → oid ∈ (w'.market! m).blotter
  fr : ∀ oid, HasOrder w0 oid → HasOrder w oid → Moves X oid (St w oid) (St w' oid)
  lv : ∀ oid, HasOrder w' oid → St w' oid = some .executable → (HasOrder w oid ∧ St w oid = some .executable) ∨ Home w' oid
  mx : ∀ m, (w.market? m).isSome = true → (w'.market? m).isSome = true

theorem Q.home {w0 : World} {X : List Nat} {w w' : World} (h : Q w0 X w w') (oid : Nat) (ho : HasOrder w oid) (hh : Home w oid) : Home w' oid := by
  unfold Home at hh ⊢
  rw [h.mkt oid ho]
  exact h.bl _ oid hh

theorem Q.hasOrder {w0 : World} {X : List Nat} {w w' : World} (h : Q w0 X w w') (oid : Nat) (ho : HasOrder w oid) : HasOrder w' oid :=
  h.good.1.hasOrder oid ho

theorem Q.refl (w0 : World) (X : List Nat) (w : World) : Q w0 X w w :=
  ⟨Good.refl w, rfl, rfl, fun _ _ => rfl, fun _ _ h => h, fun _ _ _ => Or.inl rfl, fun _ ho hs => Or.inl ⟨ho, hs⟩, MX.refl w⟩

theorem Q.trans {w0 : World} {X : List Nat} {a b c : World} (h1 : Q w0 X a b) (h2 : Q w0 X b c) : Q w0 X a c := by
  refine ⟨h1.good.trans h2.good, h2.fg.trans h1.fg, h2.qu.trans h1.qu, ?_, ?_, ?_, ?_, MX.trans h1.mx h2.mx⟩
  · intro oid ho; rw [h2.mkt oid (h1.hasOrder oid ho), h1.mkt oid ho]
  · intro m oid ho; exact h2.bl m oid (h1.bl m oid ho)
  · intro oid ho hw; exact (h1.fr oid ho hw).trans (h2.fr oid ho (h1.hasOrder oid hw))
  · intro oid ho hs
    rcases h2.lv oid ho hs with ⟨hb, sb⟩ | hh
    · rcases h1.lv oid hb sb with x | hh
      · exact Or.inl x
      · exact Or.inr (h2.home oid hb hh)
    · exact Or.inr hh

theorem Q.mono {w0 : World} {X Y : List Nat} {w w' : World} (hXY : ∀ x ∈ X, x ∈ Y) (h : Q w0 X w w') : Q w0 Y w w' :=
  ⟨h.good, h.fg, h.qu, h.mkt, h.bl, fun oid ho hw => (h.fr oid ho hw).mono hXY, h.lv, h.mx⟩

theorem Q.still {w0 : World} {X : List Nat} {w w' : World} (hg : Good w w') (hf : w'.foreign = w.foreign) (hq : w'.queue = w.queue)
    (hids : ids w' = ids w)
    (ho : ∀ oid, (w'.order! oid).status = (w.order! oid).status ∧ (w'.order! oid).market = (w.order! oid).market)
    (hb : ∀ m oid, oid ∈ (w.market! m).blotter → oid ∈ (w'.market! m).blotter) (hmx : MX w w') : Q w0 X w w' :=
  ⟨hg, hf, hq, fun oid _ => (ho oid).2, hb, fun oid _ _ => Or.inl (ho oid).1,
    fun oid hh hs => Or.inl ⟨(hasOrder_of_ids hids oid).mp hh, (ho oid).1.symm.trans hs⟩, hmx⟩

theorem Q.of_eq {w0 : World} {X : List Nat} {w w' : World} (ho : w'.orders = w.orders) (hm : w'.markets = w.markets)
    (hq : w'.queue = w.queue) (hf : w'.foreign = w.foreign) : Q w0 X w w' :=
  Q.still (Good.of_eq ho hm (sub_of_eq hq)) hf hq (by unfold ids; rw [ho]) (fun oid => by rw [order!_congr w w' ho]; exact ⟨rfl, rfl⟩)
    (fun m oid h => by rw [market!_congr w w' hm]; exact h) (MX.of_eq hm)

theorem _root_.Flumine.Calm.q {w w' : World} (h : Calm w w') (w0 : World) (X : List Nat) : Q w0 X w w' :=
  Q.still h.good h.fg h.qu h.ids (fun oid => ⟨h.status oid, h.omarket oid⟩) (fun m oid ho => by rw [(h.market m).1]; exact ho)
    (MX.of_mids h.mids)

theorem q_emit (w0 : World) (X : List Nat) (w : World) (e : Ev) : Q w0 X w (w.emit e) := Q.of_eq rfl rfl rfl rfl

/-! ### order primitives -/

theorem ids_modifyOrder (w : World) (a : Nat) (f : Order → Order) (hf : ∀ x, x.id = a → (f x).id = a) : ids (w.modifyOrder a f) = ids w := by
  refine map_map_of_keeps _ _ _ fun x => ?_
  split
  · rename_i h; rw [hf x h, h]
  · rfl

theorem order!_modify' (w : World) (a oid : Nat) (f : Order → Order) (hf : ∀ x, x.id = a → (f x).id = a) :
    (w.modifyOrder a f).order! oid = w.order! oid ∨ (oid = a ∧ HasOrder w a ∧ (w.modifyOrder a f).order! oid = f (w.order! a)) :=
  order!_modify w oid a f hf

theorem q_modifyOrder (w0 : World) (X : List Nat) (w : World) (a : Nat) (f : Order → Order) (hf : ∀ x, x.id = a → (f x).id = a)
    (hs : (f (w.order! a)).status = (w.order! a).status) (hm : (f (w.order! a)).market = (w.order! a).market) :
    Q w0 X w (w.modifyOrder a f) := by
  have ho : ∀ oid, ((w.modifyOrder a f).order! oid).status = (w.order! oid).status ∧
      ((w.modifyOrder a f).order! oid).market = (w.order! oid).market := by
    intro oid
    rcases order!_modify' w a oid f hf with h | ⟨e, _, h⟩
    · rw [h]; exact ⟨rfl, rfl⟩
    · rw [h, e]; exact ⟨hs, hm⟩
  have hids := ids_modifyOrder w a f hf
  exact Q.still (Good.inplace hids rfl (fun _ h => h)) rfl rfl hids ho (fun _ _ h => h) (fun _ h => h)

theorem q_setOrder (w0 : World) (X : List Nat) (w : World) (a : Nat) (o' : Order) (ha : HasOrder w a) (h : o'.core = (w.order! a).core) :
    Q w0 X w (w.setOrder o') :=
  have hc := Calm.order!_setOrder_core w a ha o' h
  Q.still (good_setOrder w _) rfl rfl (eff_setOrder w _).ids
    (fun oid => ⟨Order.status_of_core (hc oid), Order.market_of_core (hc oid)⟩) (fun _ _ h => h) (fun _ h => h)

theorem st_orderUpdateStatus_self (w : World) (b : Nat) (s : Status) (hb : HasOrder w b) : St (w.orderUpdateStatus b s) b = some s := by
  unfold St; rw [orderUpdateStatus_self w b s hb]; rfl

theorem st_orderUpdateStatus_other (w : World) (oid b : Nat) (s : Status) (hb : HasOrder w b) (hne : oid ≠ b) :
    St (w.orderUpdateStatus b s) oid = St w oid := by
  unfold St; rw [orderUpdateStatus_other w oid b s hb hne]

theorem home_orderUpdateStatus (w : World) (b : Nat) (s : Status) (hb : HasOrder w b) (oid : Nat) (h : Home w oid) :
    Home (w.orderUpdateStatus b s) oid := by
  unfold Home at h ⊢
  rw [orderUpdateStatus_market w oid b s hb, market!_congr w _ (eff_orderUpdateStatus w b s).markets]; exact h

/-- `hfr` is what `Q.fr` needs of `b`, `hl` what `Q.lv` needs -/
theorem q_orderUpdateStatus (w0 : World) (X : List Nat) (w : World) (b : Nat) (s : Status) (hb : HasOrder w b)
    (hfr : ¬ HasOrder w0 b ∨ Moves X b (St w b) (some s)) (hl : s = .executable → Home w b) : Q w0 X w (w.orderUpdateStatus b s) := by
  have ef := eff_orderUpdateStatus w b s
  refine ⟨good_orderUpdateStatus w b s, ef.foreign, ef.queue, fun oid _ => orderUpdateStatus_market w oid b s hb,
    fun m oid h => by rw [market!_congr _ _ ef.markets]; exact h, ?_, ?_, MX.of_eq ef.markets⟩
  · intro oid h0 _
    by_cases e : oid = b
    · subst e
      rw [st_orderUpdateStatus_self w oid s hb]
      exact hfr.resolve_left (not_not_intro h0)
    · exact Or.inl (st_orderUpdateStatus_other w oid b s hb e)
  · intro oid ho hx
    by_cases e : oid = b
    · subst e
      rw [st_orderUpdateStatus_self w oid s hb] at hx
      exact Or.inr (home_orderUpdateStatus w oid s hb oid (hl (Option.some.inj hx)))
    · exact Or.inl ⟨(ef.hasOrder oid).mp ho, st_orderUpdateStatus_other w oid b s hb e ▸ hx⟩

theorem q_orderExecutable (w0 : World) (X : List Nat) (w : World) (b : Nat) (hb : HasOrder w b)
    (hx : ¬ HasOrder w0 b ∨ b ∈ X) (hl : Home w b) : Q w0 X w (w.orderExecutable b) :=
  Rules.orderExecutable (fun h => h.q w0 X) Q.trans w b fun _ =>
    q_orderUpdateStatus w0 X w b .executable hb (hx.imp_right fun h => Or.inr (Or.inr (Or.inl ⟨h, rfl⟩))) fun _ => hl

theorem q_orderExecutionComplete (w0 : World) (X : List Nat) (w : World) (b : Nat) (hb : HasOrder w b) :
    Q w0 X w (w.orderExecutionComplete b) :=
  Rules.orderExecutionComplete (fun h => h.q w0 X) Q.trans w b (q_orderUpdateStatus w0 X w b .executionComplete hb (Or.inr (Or.inr (Or.inl rfl))) nofun)

theorem q_orderViolation (w0 : World) (X : List Nat) (w : World) (b : Nat) (msg : String) (hb : HasOrder w b) :
    Q w0 X w (w.orderViolation b msg) :=
  Rules.orderViolation (fun h => h.q w0 X) Q.trans w b msg fun hu =>
    q_orderUpdateStatus w0 X w b .violation hb (Or.inr (Or.inr (Or.inr (Or.inr ⟨hu, rfl⟩)))) nofun

theorem modifyMarket_isSome (w : World) (a : Nat) (f : Market → Market) (hf : ∀ x, (f x).id = x.id) (m : Nat)
    (h : (w.market? m).isSome = true) : ((w.modifyMarket a f).market? m).isSome = true :=
  MX.of_mids (show (w.modifyMarket a f).mids = w.mids from map_map_of_keeps _ _ _ fun x => by split; exact hf x; rfl) m h

theorem q_modifyMarket (w0 : World) (X : List Nat) (w : World) (a : Nat) (f : Market → Market)
    (hf : ∀ m, (f m).id = m.id ∧ (f m).blotter = m.blotter ∧ (f m).live = m.live) : Q w0 X w (w.modifyMarket a f) :=
  (Calm.modifyMarket w a f hf).q w0 X

theorem q_blotter (w0 : World) (X : List Nat) (w : World) (a : Nat) (f : Market → Market) (hg : Good w (w.modifyMarket a f))
    (hid : ∀ m, (f m).id = m.id) (hb : ∀ m x, x ∈ m.blotter → x ∈ (f m).blotter) : Q w0 X w (w.modifyMarket a f) := by
  refine Q.still hg rfl rfl rfl (fun _ => ⟨rfl, rfl⟩) (fun m x h => ?_) (modifyMarket_isSome w a f hid)
  rcases market!_modify w m a f hid with e | ⟨_, e⟩ <;> rw [e]
  · exact h
  · exact hb _ x h

theorem q_blotterComplete (w0 : World) (X : List Nat) (w : World) (m' oid : Nat) : Q w0 X w (w.blotterComplete m' oid) :=
  q_blotter w0 X w m' _ (good_blotterComplete w m' oid) (fun _ => rfl) fun _ _ h => h

theorem q_blotterAdd (w0 : World) (X : List Nat) (w : World) (m' oid : Nat) (ho : oid ∈ ids w) (hn : oid ∉ (w.market! m').blotter) :
    Q w0 X w (w.blotterAdd m' oid) :=
  blotterAdd_eq w m' oid ▸ (q_blotter w0 X w m' _ (good_blotterAppend w m' oid ho hn) (fun _ => rfl) fun _ _ h => List.mem_append_left _ h).trans
    ((eff_modifyOrder _ oid _).calm.q w0 X)

theorem blotterAdd_mem (w : World) (m' oid : Nat) (hm : (w.market? m').isSome = true) : oid ∈ ((w.blotterAdd m' oid).market! m').blotter := by
  show oid ∈ ((w.blotterAppend m' oid).market! m').blotter
  unfold blotterAppend
  rw [market!_modify_self w m' _ hm]
  exact List.mem_append_right _ (List.mem_singleton.mpr rfl)

theorem q_appendOrder (w0 : World) (X : List Nat) {w w' : World} {o : Order} (a : Appended w o w') : Q w0 X w w' := by
  refine ⟨good_appendOrder a, a.foreign, a.queue, fun oid h => by rw [a.order! h],
    fun m oid h => by rw [market!_congr w w' a.markets]; exact h, fun oid _ h => Or.inl (by unfold St; rw [a.order! h]), ?_, MX.of_eq a.markets⟩
  intro oid hh hx
  unfold St at hx ⊢
  rcases a.cases hh with ⟨h, e⟩ | ⟨_, e⟩ <;> rw [e] at hx
  · exact Or.inl ⟨h, hx⟩
  · rw [a.status] at hx; cases hx

/-! ### the replacement order of a simulated replace -/

theorem not_hasOrder_len (w0 w1 : World) (hI : Inv w0) (hk : Keeps w0 w1) : ¬ HasOrder w0 w1.orders.length := fresh_index w0 w1 hI hk

theorem order!_append_new (w w' : World) (o : Order) (ho : w'.orders = w.orders ++ [o]) (hn : ¬ HasOrder w o.id) : w'.order! o.id = o :=
  order!_appended w w' o ho hn

theorem createReplacement_new (w : World) (a : Nat) (np sz : Rat) (cr : Time) (hI : Inv w) :
    (w.createReplacement a np sz cr).2 = w.orders.length ∧
    St (w.createReplacement a np sz cr).1 (w.createReplacement a np sz cr).2 = none ∧
    ((w.createReplacement a np sz cr).1.order! (w.createReplacement a np sz cr).2).market = (w.order! a).market :=
  have e := (createReplacement_appended w a np sz cr).found hI
  ⟨createReplacement_snd w a np sz cr, congrArg Order.status e, (congrArg Order.market e : _ = (w.replacementOf a np sz cr).market)⟩

theorem home_market_exists (w : World) (a : Nat) (hh : Home w a) : (w.market? (w.order! a).market).isSome = true := by
  unfold Home market! at hh
  cases h : w.market? (w.order! a).market with
  | some m => rfl
  | none => rw [h] at hh; cases hh

theorem txnPlace_noexec_eq (w : World) (t : Txn) (r : Nat) (v : Option Int) (hnb : r ∉ (w.market! t.market).blotter)
    (hst : (w.order! r).status ≠ some .executionComplete) :
    (w.txnPlace t r v false false).1 = (w.modifyOrder r fun o => { o with client := some t.client }).filePlacement t r v false := by
  have c1 : Calm w (w.modifyOrder r fun o => { o with client := some t.client }) := (eff_modifyOrder w r _).calm
  rw [txnPlace_eq, show w.placeControls t r false false = (w.modifyOrder r fun o => { o with client := some t.client }, none) from rfl]
  dsimp only
  rw [if_neg]
  rw [(c1.market t.market).1, c1.status, Bool.or_eq_true, not_or]
  exact ⟨fun h => hnb (List.contains_iff_mem.mp h), fun h => hst (eq_of_beq h)⟩

/-- The place half of a simulated replace in a well-formed world.  The replacement order is the next creation index, so it is in
    no blotter and has no status, and its immediate placement is not refused.  Up to bookkeeping the replacement is created and
    then either filed and released, or completed at once and the replaced order released. -/
theorem replaceRest_cases (p : Package) (w : World) (o : Order) (a : Nat) (book : Book) (np : Option Rat) (sc : Rat) (hI : Inv.Inv w) :
    ∃ w3, Calm (w.createReplacement a (np.getD 0) sc p.created).1 w3 ∧
      ((∃ t : Txn, replaceRest p w o a book np sc =
          ((w3.filePlacement t w.orders.length none false).orderExecutable w.orders.length).tradeExit o.trade) ∨
       replaceRest p w o a book np sc = ((w3.orderExecutionComplete w.orders.length).orderExecutable a).tradeExit o.trade) := by
  have h2 := createReplacement_appended w a (np.getD 0) sc p.created
  obtain ⟨w3, h3, ⟨w5, c, h5, e⟩ | e⟩ := replaceRest_stages w p o a book np sc
  · have c5 : Calm (w.createReplacement a (np.getD 0) sc p.created).1 w5 := h3.calm.trans h5.calm
    refine ⟨_, c5.trans (eff_modifyOrder w5 w.orders.length fun x => { x with client := some c }).calm,
      Or.inl ⟨{ market := p.market, client := c }, ?_⟩⟩
    rw [e, txnPlace_noexec_eq w5 _ w.orders.length none]
    · rw [(c5.market _).1]; exact h2.unfiled hI _
    · rw [c5.status, show ((w.createReplacement a (np.getD 0) sc p.created).1.order! w.orders.length).status = none from
        congrArg Order.status (h2.found hI)]
      nofun
  · exact ⟨w3, h3.calm, Or.inr e⟩

theorem filePlacement_mem (w : World) (t : Txn) (a : Nat) (v : Option Int) (ex : Bool) (hex : (w.market? t.market).isSome = true) :
    a ∈ ((w.filePlacement t a v ex).market! t.market).blotter := by
  obtain ⟨w1, h1, h⟩ := filePlacement_cases w t a v ex
  rw [(h.calm.market t.market).1]
  exact blotterAdd_mem _ t.market a
    (MX.of_eq (eff_orderUpdateStatus w1 a .pending).markets _ ((h1.calm.market t.market).2.2.trans hex))

theorem st_filePlacement_other (w : World) (t : Txn) (a : Nat) (v : Option Int) (ex : Bool) (ha : HasOrder w a) (oid : Nat) (hne : oid ≠ a) :
    St (w.filePlacement t a v ex) oid = St w oid :=
  Rules.filePlacement (R := fun w w' => St w' oid = St w oid) (fun k => k.status oid) (fun h1 h2 => h2.trans h1) t a v ex
    (A := fun w => HasOrder w a) (P := fun _ => True) (fun k h => (k.hasOrder a).mpr h)
    (fun {w} h => ⟨st_orderUpdateStatus_other w oid a .pending h hne, trivial⟩)
    (fun {w} _ => Order.status_of_core ((eff_blotterAdd w t.market a).cores oid)) w ha

theorem q_filePlacement (w0 : World) (X : List Nat) (w : World) (t : Txn) (a : Nat) (v : Option Int) (ex : Bool) (ha : HasOrder w a)
    (hnew : ¬ HasOrder w0 a) (hn : a ∉ (w.market! t.market).blotter) : Q w0 X w (w.filePlacement t a v ex) :=
  Rules.filePlacement (fun h => h.q w0 X) Q.trans t a v ex
    (A := fun w => HasOrder w a ∧ a ∉ (w.market! t.market).blotter) (P := fun w => a ∈ ids w ∧ a ∉ (w.market! t.market).blotter)
    (fun k h => ⟨(k.hasOrder a).mpr h.1, by rw [(k.market _).1]; exact h.2⟩)
    (fun {w} h => ⟨q_orderUpdateStatus w0 X w a .pending h.1 (Or.inl hnew) nofun,
      (hasOrder_iff _ a).mp (hasOrder_orderUpdateStatus w a a .pending h.1),
      by rw [market!_congr w (w.orderPlacing a) (eff_orderUpdateStatus w a .pending).markets]; exact h.2⟩)
    (fun {w} h => q_blotterAdd w0 X w t.market a h.1 h.2) w ⟨ha, hn⟩

theorem q_txnPlace_noexec (w0 : World) (X : List Nat) (w : World) (t : Txn) (rid : Nat) (v : Option Int) (hr : HasOrder w rid)
    (hnew : ¬ HasOrder w0 rid) (hnb : rid ∉ (w.market! t.market).blotter) (hst : St w rid = none)
    (hmk : (w.order! rid).market = t.market) (hex : (w.market? t.market).isSome = true) :
    Q w0 X w (w.txnPlace t rid v false false).1 ∧ Home (w.txnPlace t rid v false false).1 rid := by
  rw [txnPlace_noexec_eq w t rid v hnb (by rw [show (w.order! rid).status = none from hst]; nofun)]
  have c1 : Calm w (w.modifyOrder rid fun o => { o with client := some t.client }) := (eff_modifyOrder w rid _).calm
  have hr1 := (c1.hasOrder rid).mpr hr
  have k := q_filePlacement w0 X _ t rid v false hr1 hnew (by rw [(c1.market _).1]; exact hnb)
  refine ⟨(c1.q w0 X).trans k, ?_⟩
  unfold Home
  rw [k.mkt rid hr1, c1.omarket, hmk]
  exact filePlacement_mem _ t rid v false ((c1.market _).2.2.trans hex)

/-- the order as `order.place(publish_time, market_version)` and `blotter[order.id] = order` leave it: stamped with the book's
    publish time, PENDING, noted as being in the blotter under the client it carries -/
def filed (o : Order) (pt : Time) (v : Option Int) (now : Time) : Order :=
  { stamped { o with publishTime := some pt, marketVersion := v } now .pending with inBlotter := true, blotterClient := o.client }

theorem filePlacement_order (w : World) (t : Txn) (a : Nat) (v : Option Int) (ex : Bool) (ha : HasOrder w a) :
    (w.filePlacement t a v ex).order! a = filed (w.order! a) (((w.market! t.market).book).getD {}).pt v w.clock := by
  unfold filePlacement
  extract_lets book w1 w2 o nt w3 w4
  have h1 : HasOrder w1 a := hasOrder_modify w a a _ ha
  have h2 : HasOrder w2 a := hasOrder_orderUpdateStatus w1 a a .pending h1
  -- three edits of the order: the book's data, `_update_status(PENDING)`, the blotter's note; what follows leaves the table alone
  have e3 : ∀ w5 : World, w5.orders = w3.orders → w5.order! a = filed (w.order! a) book.pt v w.clock := fun w5 h5 => by
    rw [order!_congr w3 w5 h5 a, show w3 = _ from blotterAdd_eq w2 t.market a, order!_modify_self (w2.blotterAppend t.market a) a _ h2,
      order!_congr w2 (w2.blotterAppend t.market a) rfl, show w2.order! a = _ from orderUpdateStatus_self w1 a .pending h1,
      show w1.order! a = _ from order!_modify_self w a _ ha]
    rfl
  have o4 : w4.orders = w3.orders := by unfold w4; split <;> rfl
  clear_value w1 w2 w3 w4
  split
  · exact e3 _ ((setCtx_orders _ _).trans o4)
  · exact e3 _ o4

theorem filePlacement_self (w : World) (t : Txn) (a : Nat) (v : Option Int) (ex : Bool) (ha : HasOrder w a) :
    ((w.filePlacement t a v ex).order! a).status = some .pending ∧ ((w.filePlacement t a v ex).order! a).complete = false := by
  rw [filePlacement_order w t a v ex ha]
  generalize w.order! a = o
  exact ⟨rfl, rfl⟩

/-! ### handlers, middleware, completion loop, closure: Q as an instance of the rules -/

/-- what a handler needs to know about the order it is about to handle -/
def Ok (p : Package) (w : World) (oid : Nat) : Prop := HasOrder w oid ∧ Home w oid ∧ (w.order! oid).market = p.market

theorem Ok.step {w0 : World} {X : List Nat} {w w' : World} {p : Package} {oid : Nat} (h : Q w0 X w w') (ok : Ok p w oid) : Ok p w' oid :=
  ⟨h.hasOrder oid ok.1, h.home oid ok.1 ok.2.1, by rw [h.mkt oid ok.1]; exact ok.2.2⟩

/-- a replacement order just created: not in the base world, no status, of the package's market (which is known), in no blotter -/
structure Fresh (w0 : World) (p : Package) (w : World) (r : Nat) : Prop where
  has : HasOrder w r
  new : ¬ HasOrder w0 r
  st : St w r = none
  mkt : (w.order! r).market = p.market
  nb : ∀ m, r ∉ (w.market! m).blotter
  mx : (w.market? p.market).isSome = true

/-- Of the world: it is well-formed, and so is w0, whose orders it keeps (what makes a replacement order new to w0).  Of an order
    the handler of p is about to handle: it is in X, in the blotter of its market, which is p's.  Of a replacement that has been
    placed: it is new and at home. -/
theorem qHandlers (w0 : World) (X : List Nat) :
    Handlers (Q w0 X) (fun w => Inv.Inv w ∧ Inv w0 ∧ Keeps w0 w) (fun p w a => Ok p w a ∧ a ∈ X) (Fresh w0)
      (fun _ w r => HasOrder w r ∧ ¬ HasOrder w0 r ∧ Home w r) where
  calm := fun h => h.q w0 X
  trans := Q.trans
  hcalm := fun k h => ⟨Ok.step (k.q w0 X) h.1, h.2⟩
  exe := fun h => q_orderExecutable w0 X _ _ h.1.1 (Or.inr h.2) h.1.2.1
  ec := fun h => q_orderExecutionComplete w0 X _ _ h.1.1
  gmono := fun k h => ⟨k.good.2 h.1, h.2.1, h.2.2.trans k.good.1⟩
  hmono := fun k h => ⟨Ok.step k h.1, h.2⟩
  ncalm := fun {w w' p r} k h => ⟨(k.hasOrder r).mpr h.has, h.new, (k.status r).trans h.st, (k.omarket r).trans h.mkt,
    fun m => by rw [(k.market m).1]; exact h.nb m, (k.market p.market).2.2.trans h.mx⟩
  create := by
    intro p w a o w' h hmo ⟨hI, hI0, hk⟩ ⟨⟨ha, hh, hm⟩, _⟩
    have e := h.found hI
    exact ⟨q_appendOrder w0 X h, h.has, h.id ▸ not_hasOrder_len w0 w hI0 hk, (congrArg Order.status e).trans h.status,
      (congrArg Order.market e).trans (hmo.trans hm), h.unfiled hI, MX.of_eq h.markets _ (hm ▸ home_market_exists w a hh)⟩
  ecN := fun h => q_orderExecutionComplete w0 X _ _ h.has
  placeN := fun {p w r} c h =>
    have k := q_txnPlace_noexec w0 X w { market := p.market, client := c } r none h.has h.new (h.nb p.market) h.st h.mkt h.mx
    ⟨k.1, k.1.hasOrder r h.has, h.new, k.2⟩
  exeP := fun h => q_orderExecutable w0 X _ _ h.1 (Or.inl h.2.1) h.2.2

theorem qBlotters (w0 : World) (X : List Nat) : Blotters (Q w0 X) Inv.Inv HasOrder where
  calm := fun h => h.q w0 X
  trans := Q.trans
  gmono := fun k h => k.good.2 h
  bmono := fun k h => k.hasOrder _ h
  blot := fun h mid => h.blotter_hasOrder mid
  liveB := fun h mid oid ho => h.blotter_hasOrder mid oid (h.live_sub mid oid ho)
  bkey := hasOrder_key
  setOrder := fun w a hb _ hf => q_setOrder w0 X w a _ hb (hf _)
  ecB := fun h => q_orderExecutionComplete w0 X _ _ h
  unlive := fun _ mid _ => q_blotterComplete w0 X _ mid _
  ecUnlive := fun hb mid => (q_orderExecutionComplete w0 X _ _ hb).trans (q_blotterComplete w0 X _ mid _)

theorem q_execAll (w0 : World) (X : List Nat) (l : List Package) (w : World) (hX : ∀ p ∈ l, ∀ oid ∈ p.orders, oid ∈ X)
    (hI0 : Inv w0) (hk0 : Keeps w0 w) (hI : Inv w) (hl : ∀ p ∈ l, ∀ oid ∈ p.orders, Ok p w oid) :
    Q w0 X w (l.foldl (fun w p => w.executePackage p) w) :=
  (qHandlers w0 X).execAll l w ⟨hI, hI0, hk0⟩ fun p hp a ha => ⟨hl p hp a ha, hX p hp a ha⟩

theorem qRequests (w0 : World) (X : List Nat) : Requests (Q w0 X) HasOrder :=
  ⟨fun h => h.q w0 X, Q.trans, fun k h => k.hasOrder _ h, fun _ h => q_orderViolation w0 X _ _ _ h⟩

theorem q_validateControls (w0 : World) (X : List Nat) (w : World) (oid cid : Nat) (k : PackKind) (ho : HasOrder w oid) :
    Q w0 X w (w.validateControls oid cid k).1 :=
  (qRequests w0 X).validateControls w oid cid k ho

theorem q_placeControls (w0 : World) (X : List Nat) (w : World) (t : Txn) (oid : Nat) (ex force : Bool) (ho : HasOrder w oid) :
    Q w0 X w (w.placeControls t oid ex force).1 :=
  (qRequests w0 X).placeControls w t oid ex force ho

theorem q_simulatedMiddleware (w0 : World) (X : List Nat) (w : World) (mid : Nat) (hI : Inv.Inv w) : Q w0 X w (w.simulatedMiddleware mid) :=
  (qBlotters w0 X).simulatedMiddleware w mid hI

theorem q_processSimulatedOrders (w0 : World) (X : List Nat) (w : World) (mid : Nat) (hI : Inv.Inv w) : Q w0 X w (w.processSimulatedOrders mid) :=
  (qBlotters w0 X).processSimulatedOrders w mid hI

theorem q_processCloseMarket (w0 : World) (X : List Nat) (w : World) (mid : Nat) (book : Book) (hI : Inv.Inv w) :
    Q w0 X w (w.processCloseMarket mid book) :=
  (qBlotters w0 X).processCloseMarket w mid book hI

theorem q_appendMarket (w0 : World) (X : List Nat) (w : World) (m : Market) (hnew : (w.market? m.id).isNone = true) (hb : m.blotter = []) (hl : m.live = []) :
    Q w0 X w ({ w with markets := w.markets ++ [m] } : World) := by
  refine Q.still (good_appendMarket w m hnew hb hl) rfl rfl rfl (fun _ => ⟨rfl, rfl⟩) ?_ ?_
  · exact fun mid oid h => (market!_appendNew w m hnew hb hl mid).1 ▸ h
  · intro mid h
    rw [Mids.market?_isSome_iff] at h ⊢
    exact List.mem_map.mpr ((List.mem_map.mp h).imp fun _ hx => ⟨List.mem_append_left _ hx.1, hx.2⟩)

theorem appendMarket_isSome (w : World) (m : Market) : (({ w with markets := w.markets ++ [m] } : World).market? m.id).isSome = true := by
  rw [Mids.market?_isSome_iff]
  exact List.mem_map.mpr ⟨m, List.mem_append_right _ (List.mem_singleton.mpr rfl), rfl⟩

/-! ### the invariant: at most one outstanding operation per order -/

/-- the flight invariant of the world and the open transaction `b` (if any).  Of the outstanding operations (`pendIds`):
    `ex` each is about an existing order, `nd` no order has two, `ne` none of the orders is EXECUTABLE (so its guard refuses a
    further cancel / update / replace), `hm` each order is in the blotter of its own market (so a second placement is refused);
    `hx` every EXECUTABLE order is in its market's blotter; `qm`, `tm` a queued package and the open transaction hold orders of
    their own market only -/
structure FI (w : World) (b : Option Txn) : Prop where
  inv : Inv.Inv w
  ex : ∀ oid ∈ pendIds w b, HasOrder w oid
  hx : ∀ oid, HasOrder w oid → St w oid = some .executable → Home w oid
  nd : (pendIds w b).Nodup
  ne : ∀ oid ∈ pendIds w b, St w oid ≠ some .executable
  hm : ∀ oid ∈ pendIds w b, Home w oid
  qm : ∀ p ∈ w.queue, ∀ oid ∈ p.orders, (w.order! oid).market = p.market
  tm : ∀ t, b = some t → ∀ oid ∈ txnIds t, (w.order! oid).market = t.market

theorem Q.keeps_hx {w0 : World} {X : List Nat} {w w' : World} (h : Q w0 X w w')
    (hx : ∀ oid, HasOrder w oid → St w oid = some .executable → Home w oid) :
    ∀ oid, HasOrder w' oid → St w' oid = some .executable → Home w' oid := by
  intro oid ho hs
  rcases h.lv oid ho hs with ⟨hb, sb⟩ | hh
  · exact h.home oid hb (hx oid hb sb)
  · exact hh

/-- A step of kind Q keeps the invariant if afterwards no order with an outstanding operation is EXECUTABLE.  `Q.fr` is one way
    to know that (`fi_calm`).  The status changes of a request are no moves of `Moves`; for them take a base world without
    orders (`{}`): relative to it `fr` says nothing, and they are steps of kind Q as well. -/
theorem fi_step {w0 : World} {X : List Nat} {w w' : World} {b : Option Txn} (h : Q w0 X w w') (f : FI w b)
    (hne : ∀ oid ∈ pendIds w b, St w' oid ≠ some .executable) : FI w' b := by
  have hp := pendIds_congr h.qu b
  refine ⟨h.good.2 f.inv, ?_, h.keeps_hx f.hx, hp ▸ f.nd, hp ▸ hne, ?_, ?_, ?_⟩
  · intro oid ho; rw [hp] at ho; exact h.hasOrder oid (f.ex oid ho)
  · intro oid ho; rw [hp] at ho; exact h.home oid (f.ex oid ho) (f.hm oid ho)
  · intro p hp' oid ho
    rw [h.qu] at hp'
    have hw : HasOrder w oid := f.ex oid (mem_pendIds_of_queued hp' ho b)
    rw [h.mkt oid hw]; exact f.qm p hp' oid ho
  · intro t ht oid ho
    have hw : HasOrder w oid := f.ex oid (List.mem_append_right _ (by rw [ht]; exact ho))
    rw [h.mkt oid hw]; exact f.tm t ht oid ho

/-- a step that is not a request and releases no order keeps the invariant -/
theorem fi_calm {w w' : World} {b : Option Txn} (h : Q w [] w w') (f : FI w b) : FI w' b :=
  fi_step h f fun oid ho => (h.fr oid (f.ex oid ho) (f.ex oid ho)).ne_executable List.not_mem_nil (f.ne oid ho)

/-! ### executing the due packages -/

theorem q_execDue {w : World} (f : FI w none) (c : Package → Bool) :
    Q w ((w.queue.filter c).flatMap (·.orders)) w ((w.queue.filter c).foldl (fun w p => w.executePackage p) w) :=
  q_execAll w _ _ w (fun p hp _ ho => List.mem_flatMap.mpr ⟨p, hp, ho⟩) f.inv (Keeps.refl w) f.inv fun p hp oid ho =>
    have hq := (List.mem_filter.mp hp).1
    have hin := mem_pendIds_of_queued hq ho none
    ⟨f.ex oid hin, f.hm oid hin, f.qm p hq oid ho⟩

/-- A step of kind Q that releases only orders of the packages selected by `c`, after which those packages have left the queue
    (`r` says which stay): what still waits was waiting before, and not in a package that was handled. -/
theorem fi_dequeue {w w1 : World} (c r : Package → Bool) (hcr : ∀ p ∈ w.queue, c p = true → r p = true → False) (f : FI w none)
    (k : Q w ((w.queue.filter c).flatMap (·.orders)) w w1) (hI2 : Inv.Inv { w1 with queue := w1.queue.filter r }) :
    FI { w1 with queue := w1.queue.filter r } none := by
  have hnd : (queueIds w).Nodup := pendIds_none w ▸ f.nd
  have hp1 : pendIds ({ w1 with queue := w1.queue.filter r } : World) none = (w.queue.filter r).flatMap (·.orders) := by
    rw [← k.qu]; exact List.append_nil _
  have hrem : ∀ oid ∈ pendIds ({ w1 with queue := w1.queue.filter r } : World) none,
      oid ∈ pendIds w none ∧ oid ∉ (w.queue.filter c).flatMap (·.orders) := fun oid ho =>
    ⟨List.mem_append_left _ ((sublist_flatMap_filter w.queue (·.orders) r).subset (hp1 ▸ ho)),
      fun hm => disjoint_filters w.queue (·.orders) c r hcr hnd oid hm (hp1 ▸ ho)⟩
  refine ⟨hI2, fun oid ho => k.hasOrder oid (f.ex oid (hrem oid ho).1), k.keeps_hx f.hx, ?_, fun oid ho => ?_,
    fun oid ho => k.home oid (f.ex oid (hrem oid ho).1) (f.hm oid (hrem oid ho).1), ?_, fun t ht => by cases ht⟩
  · rw [hp1]
    exact (sublist_flatMap_filter w.queue (·.orders) r).nodup hnd
  · obtain ⟨h1, h2⟩ := hrem oid ho
    exact (k.fr oid (f.ex oid h1) (f.ex oid h1)).ne_executable h2 (f.ne oid h1)
  · intro p hp oid ho
    have hp' : p ∈ w.queue := k.qu ▸ (List.mem_filter.mp hp).1
    show (w1.order! oid).market = p.market
    rw [k.mkt oid (f.ex oid (mem_pendIds_of_queued hp' ho none))]
    exact f.qm p hp' oid ho

/-- `_check_pending_packages` removes what it executed by package id: a due package does not stay -/
theorem fi_checkPendingPackages (w : World) (mid : Nat) (f : FI w none) :
    FI (w.checkPendingPackages mid) none ∧ (w.checkPendingPackages mid).foreign = w.foreign :=
  ⟨fi_dequeue _ _ (fun x hx cx rx => by rw [List.any_eq_true.mpr ⟨x, List.mem_filter.mpr ⟨hx, cx⟩, decide_eq_true rfl⟩] at rx; cases rx)
    f (q_execDue f _) ((good_checkPendingPackages w mid).2 f.inv), (eff_checkPendingPackages w mid).foreign⟩

/-! ### requests -/

theorem fi_add {w : World} {t t' : Txn} (f : FI w (some t)) (a : Nat) (ha : HasOrder w a) (hnp : a ∉ pendIds w (some t))
    (hs : St w a ≠ some .executable) (hh : Home w a) (hmk : (w.order! a).market = t.market) (htm : t'.market = t.market)
    (hperm : (txnIds t').Perm (a :: txnIds t)) : FI w (some t') := by
  have hp : (pendIds w (some t')).Perm (a :: pendIds w (some t)) := (hperm.append_left (queueIds w)).trans List.perm_middle
  -- a property of `a` and of everything pending before holds of everything pending now
  have all (φ : Nat → Prop) (h0 : φ a) (h1 : ∀ x ∈ pendIds w (some t), φ x) : ∀ x ∈ pendIds w (some t'), φ x := fun x hx =>
    (List.mem_cons.mp (hp.mem_iff.mp hx)).elim (fun e => e ▸ h0) (h1 x)
  refine ⟨f.inv, all _ ha f.ex, f.hx, hp.nodup_iff.mpr (List.nodup_cons.mpr ⟨hnp, f.nd⟩), all _ hs f.ne, all _ hh f.hm, f.qm, ?_⟩
  intro t2 ht2 oid ho
  cases ht2
  rw [htm]
  exact (List.mem_cons.mp (hperm.mem_iff.mp ho)).elim (fun e => e ▸ hmk) (f.tm t rfl oid)

theorem _root_.Flumine.Rules.Accepts.st {w w' : World} {a : Nat} (h : Accepts w w' a) (ha : HasOrder w a) :
    St w' a ≠ some .executable ∧ ∀ oid, oid ≠ a → St w' oid = St w oid := by
  obtain ⟨_, g, s, hg, hs, rfl⟩ := h
  have hA := hasOrder_setOrder w (g (w.order! a)) a ha
  refine ⟨?_, fun oid e => (st_orderUpdateStatus_other _ oid a s hA e).trans
    (Order.status_of_core (Calm.order!_setOrder_core w a ha _ (hg _) oid))⟩
  rw [st_orderUpdateStatus_self _ a s hA]
  rcases hs with rfl | rfl | rfl <;> nofun

theorem _root_.Flumine.Rules.Accepts.q {w w' : World} {a : Nat} (h : Accepts w w' a) (ha : HasOrder w a) (w0 : World) (X : List Nat)
    (hnew : ¬ HasOrder w0 a) : Q w0 X w w' := by
  obtain ⟨_, g, s, hg, hs, rfl⟩ := h
  refine (q_setOrder w0 X w a _ ha (hg _)).trans
    (q_orderUpdateStatus w0 X _ a s (hasOrder_setOrder w _ a ha) (Or.inl hnew) fun e => ?_)
  rcases hs with rfl | rfl | rfl <;> cases e

theorem fi_accepts {w w' : World} {t t' : Txn} (f : FI w (some t)) (a : Nat) (ha : HasOrder w a) (hmk : (w.order! a).market = t.market)
    (h : Accepts w w' a) (htm : t'.market = t.market) (hperm : (txnIds t').Perm (a :: txnIds t)) : FI w' (some t') := by
  have k : Q {} [] w w' := h.q ha {} [] (not_hasOrder_of_nil rfl a)
  obtain ⟨hsa, hso⟩ := h.st ha
  -- `a` has no outstanding operation: it is EXECUTABLE
  have hnp : a ∉ pendIds w (some t) := fun hin => f.ne a hin h.1
  have f1 : FI w' (some t) := fi_step k f fun oid ho => by rw [hso oid fun e => hnp (e ▸ ho)]; exact f.ne oid ho
  exact fi_add f1 a (k.hasOrder a ha) (by rw [pendIds_congr k.qu]; exact hnp) hsa (k.home a ha (f.hx a ha h.1))
    ((k.mkt a ha).trans hmk) htm hperm

theorem fi_txnRequest (w : World) (t : Txn) (a : Nat) (force : Bool) (k : PackKind) (op : World → Except ReqErr World) (file : Txn → Txn)
    (f : FI w (some t)) (ha : HasOrder w a) (hmk : (w.order! a).market = t.market)
    (hop : ∀ w w', op w = .ok w' → Accepts w w' a) (hm : (file t).market = t.market) (hperm : (txnIds (file t)).Perm (a :: txnIds t)) :
    FI (w.txnRequest t a force k op file).1 (some (w.txnRequest t a force k op file).2.1) ∧
    (w.txnRequest t a force k op file).1.foreign = w.foreign ∧ (w.txnRequest t a force k op file).2.1.market = t.market ∧
    MX w (w.txnRequest t a force k op file).1 := by
  have e := eff_txnRequest w t a force k op file fun _ _ h => (hop _ _ h).eff
  refine ⟨?_, e.foreign, ?_, MX.of_mids e.mids⟩
  · refine txnRequest_cases w t a force k op file (fun w' t' => FI w' (some t')) f fun w1 h1 => ?_
    have k1 : Q w [] w w1 := by
      rcases h1 with rfl | rfl
      · exact Q.refl _ [] _
      · exact q_validateControls w [] w a t.client k ha
    exact ⟨fi_calm k1 f, fun w2 h2 => fi_accepts (fi_calm k1 f) a (k1.hasOrder a ha) ((k1.mkt a ha).trans hmk) (hop w1 w2 h2) hm hperm⟩
  · exact txnRequest_cases w t a force k op file (fun _ t' => t'.market = t.market) rfl fun _ _ => ⟨rfl, fun _ _ => hm⟩

theorem fi_txnCancel (w : World) (t : Txn) (a : Nat) (red : Option Rat) (force : Bool) (f : FI w (some t)) (ha : HasOrder w a)
    (hmk : (w.order! a).market = t.market) :
    FI (w.txnCancel t a red force).1 (some (w.txnCancel t a red force).2.1) ∧
    (w.txnCancel t a red force).1.foreign = w.foreign ∧ (w.txnCancel t a red force).2.1.market = t.market ∧
    MX w (w.txnCancel t a red force).1 :=
  txnCancel_eq w t a red force ▸ fi_txnRequest w t a force _ _ _ f ha hmk (fun _ _ => orderCancel_accepts) rfl (txnIds_cancel t (a, none) true)

theorem fi_txnUpdate (w : World) (t : Txn) (a : Nat) (pers : String) (force : Bool) (f : FI w (some t)) (ha : HasOrder w a)
    (hmk : (w.order! a).market = t.market) :
    FI (w.txnUpdate t a pers force).1 (some (w.txnUpdate t a pers force).2.1) ∧
    (w.txnUpdate t a pers force).1.foreign = w.foreign ∧ (w.txnUpdate t a pers force).2.1.market = t.market ∧
    MX w (w.txnUpdate t a pers force).1 :=
  txnUpdate_eq w t a pers force ▸ fi_txnRequest w t a force _ _ _ f ha hmk (fun _ _ => orderUpdate_accepts) rfl (txnIds_update t (a, none) true)

theorem fi_txnReplace (w : World) (t : Txn) (a : Nat) (price : Rat) (mv : Option Int) (force : Bool) (f : FI w (some t)) (ha : HasOrder w a)
    (hmk : (w.order! a).market = t.market) :
    FI (w.txnReplace t a price mv force).1 (some (w.txnReplace t a price mv force).2.1) ∧
    (w.txnReplace t a price mv force).1.foreign = w.foreign ∧ (w.txnReplace t a price mv force).2.1.market = t.market ∧
    MX w (w.txnReplace t a price mv force).1 :=
  txnReplace_eq w t a price mv force ▸ fi_txnRequest w t a force _ _ _ f ha hmk (fun _ _ => orderReplace_accepts) rfl (txnIds_replace t (a, mv) true)

theorem fi_filePlacement (w : World) (t : Txn) (a : Nat) (mv : Option Int) (f : FI w (some t)) (ha : HasOrder w a)
    (hmk : (w.order! a).market = t.market) (hex : (w.market? t.market).isSome = true) (hn : a ∉ (w.market! t.market).blotter) :
    FI (w.filePlacement t a mv true) (some { t with pPlace := t.pPlace ++ [(a, mv)], pendingOrders := true }) := by
  -- `a` has no outstanding operation: it would be in its blotter
  have hnp : a ∉ pendIds w (some t) := fun hin => hn (by have := f.hm a hin; unfold Home at this; rwa [hmk] at this)
  have k := q_filePlacement {} [] w t a mv true ha (not_hasOrder_of_nil rfl a) hn
  have h : FI (w.filePlacement t a mv true) (some t) := fi_step k f fun oid ho => by
    rw [st_filePlacement_other w t a mv true ha oid fun e => hnp (e ▸ ho)]; exact f.ne oid ho
  have hmkF := (k.mkt a ha).trans hmk
  exact fi_add h a (k.hasOrder a ha) (by rw [pendIds_congr k.qu]; exact hnp)
    (by unfold St; rw [(filePlacement_self w t a mv true ha).1]; nofun)
    (by unfold Home; rw [hmkF]; exact filePlacement_mem w t a mv true hex) hmkF rfl (txnIds_place t (a, mv) true)

theorem fi_txnPlace (w : World) (t : Txn) (a : Nat) (mv : Option Int) (force : Bool) (f : FI w (some t)) (ha : HasOrder w a)
    (hmk : (w.order! a).market = t.market) (hex : (w.market? t.market).isSome = true) :
    FI (w.txnPlace t a mv true force).1 (some (w.txnPlace t a mv true force).2.1) ∧
    (w.txnPlace t a mv true force).1.foreign = w.foreign ∧ (w.txnPlace t a mv true force).2.1.market = t.market ∧
    MX w (w.txnPlace t a mv true force).1 := by
  have e := eff_txnPlace w t a mv true force
  have k1 := q_placeControls w [] w t a true force ha
  refine ⟨?_, e.foreign, ?_, MX.of_mids e.mids⟩
  · exact txnPlace_cases w t a mv true force (fun w' t' => FI w' (some t')) (fi_calm k1 f) fun hn _ =>
      fi_filePlacement _ t a mv (fi_calm k1 f) (k1.hasOrder a ha) ((k1.mkt a ha).trans hmk) (k1.mx _ hex) hn
  · exact txnPlace_cases w t a mv true force (fun _ t' => t'.market = t.market) rfl fun _ _ => rfl

/-! ### packaging: `Transaction.execute` moves the pending requests into the handler queue -/

/-- `FI` reads the orders, the markets and the outstanding operations: where orders and markets are the same and no operation
    is new, what is left to show is what it says of the queue and the open transaction themselves. -/
theorem fi_relist {w w' : World} {b b' : Option Txn} (f : FI w b) (ho : w'.orders = w.orders) (hm : w'.markets = w.markets)
    (hI : Inv.Inv w') (hsub : ∀ oid ∈ pendIds w' b', oid ∈ pendIds w b) (hnd : (pendIds w' b').Nodup)
    (hqm : ∀ p ∈ w'.queue, ∀ oid ∈ p.orders, (w.order! oid).market = p.market)
    (htm : ∀ t, b' = some t → ∀ oid ∈ txnIds t, (w.order! oid).market = t.market) : FI w' b' := by
  have hor : ∀ oid, w'.order! oid = w.order! oid := order!_congr w w' ho
  have hst : ∀ oid, St w' oid = St w oid := fun oid => congrArg Order.status (hor oid)
  have hho : ∀ oid, Home w' oid ↔ Home w oid := fun oid => by unfold Home; rw [hor, market!_congr w w' hm]
  have hha : ∀ oid, HasOrder w' oid ↔ HasOrder w oid := hasOrder_congr w w' ho
  exact ⟨hI, fun oid h => (hha oid).mpr (f.ex oid (hsub oid h)), fun oid h hs => (hho oid).mpr (f.hx oid ((hha oid).mp h) (hst oid ▸ hs)),
    hnd, fun oid h => hst oid ▸ f.ne oid (hsub oid h), fun oid h => (hho oid).mpr (f.hm oid (hsub oid h)),
    fun p hp oid h => (hor oid).symm ▸ hqm p hp oid h, fun t ht oid h => (hor oid).symm ▸ htm t ht oid h⟩

theorem FI.ofNone {w : World} (f : FI w none) (t : Txn) (ht : txnIds t = []) : FI w (some t) :=
  have hp := pendIds_of_nil w ht
  fi_relist f rfl rfl f.inv (fun _ h => hp ▸ h) (hp ▸ f.nd) f.qm fun t2 ht2 oid ho => by rw [← Option.some.inj ht2, ht] at ho; cases ho

theorem FI.drop {w : World} {b : Option Txn} (f : FI w b) : FI w none :=
  have hn := pendIds_none w
  fi_relist f rfl rfl f.inv (fun _ h => List.mem_append_left _ (hn ▸ h)) (hn ▸ (List.nodup_append.mp f.nd).1) f.qm nofun

theorem packs_queue (k : PackKind) (t : Txn) (d bd : Rat) (l : List (Option Int × List Nat)) (w : World) :
    queueIds (l.foldl (addPackage k t d bd) w) = queueIds w ++ l.flatMap (·.2) ∧
    (∀ p ∈ (l.foldl (addPackage k t d bd) w).queue, p ∈ w.queue ∨ (p.market = t.market ∧ ∃ vc ∈ l, p.orders = vc.2)) ∧
    (l.foldl (addPackage k t d bd) w).foreign = w.foreign := by
  rw [foldl_addPackage_eq]
  have hm := newPackages_map k t d bd w.clock w.nextPackage l
  refine ⟨?_, fun p hp => ?_, rfl⟩
  · have ho := congrArg (List.map fun x => x.2.2.2.2.1) hm
    rw [List.map_map, List.map_map] at ho
    show (w.queue ++ _).flatMap (·.orders) = _
    rw [List.flatMap_append, List.flatMap_def, List.flatMap_def (l := l)]
    exact congrArg (_ ++ List.flatten ·) ho
  · rcases List.mem_append.mp hp with h | h
    · exact Or.inl h
    · have := List.mem_map_of_mem (f := fun p : Package => (p.kind, p.market, p.client, p.marketVersion, p.orders, p.created, p.delay)) h
      rw [hm] at this
      obtain ⟨vc, hvc, e⟩ := List.mem_map.mp this
      exact Or.inr ⟨(congrArg (fun x => x.2.1) e).symm, vc, hvc, (congrArg (fun x => x.2.2.2.2.1) e).symm⟩

theorem txnExecute_queue (w : World) (t : Txn) :
    ∀ p ∈ (w.txnExecute t).1.queue, p ∈ w.queue ∨ (p.market = t.market ∧ ∀ oid ∈ p.orders, oid ∈ txnIds t) := by
  rw [txnExecute_fst]
  refine foldl_rel (R := fun w w' : World => ∀ p ∈ w'.queue, p ∈ w.queue ∨ (p.market = t.market ∧ ∀ oid ∈ p.orders, oid ∈ txnIds t))
    (fun _ _ h => Or.inl h) (fun h1 h2 p hp => (h2 p hp).elim (h1 p) Or.inr) (fun w => w) (pack t)
    (fun _ pk => ∀ x ∈ pk.1, x.1 ∈ txnIds t) (fun _ _ h => h) (fun w pk h p hp => ?_) _ w fun _ hpk _ hx => mem_txnIds_of_pending hpk hx
  unfold pack at hp; split at hp
  · exact Or.inl hp
  · refine ((packs_queue pk.2 t _ _ (packsOf pk.1 pk.2) w).2.1 p hp).imp_right fun ⟨hm, vc, hvc, ho⟩ => ⟨hm, fun oid hoid => ?_⟩
    exact h _ ((Packs.packs_sound pk.1 pk.2 vc hvc).2.2 oid (ho ▸ hoid))

/-- the queue grows by a permutation of the pending list, which is empty afterwards -/
theorem pendIds_txnExecute (w : World) (t : Txn) :
    (pendIds (w.txnExecute t).1 (some (w.txnExecute t).2)).Perm (pendIds w (some t)) := by
  obtain ⟨N, hq, hperm⟩ := C02.execute_queues_each_request_once w t
  show (queueIds _ ++ txnIds _).Perm (queueIds w ++ txnIds t)
  rw [txnIds_txnExecute, List.append_nil, hq]; exact hperm.append_left _

theorem fi_txnExecute (w : World) (t : Txn) (f : FI w (some t)) : FI (w.txnExecute t).1 (some (w.txnExecute t).2) := by
  have e := eff_txnExecute w t
  have hp := pendIds_txnExecute w t
  have ht : TOk w t := fun x hx => (hasOrder_iff w x).mp (f.ex x (List.mem_append_right _ hx))
  refine fi_relist f e.orders e.markets ((good_txnExecute w t ht).2 f.inv) (fun _ => hp.mem_iff.mp) (hp.nodup_iff.mpr f.nd)
    (fun p hp' oid hoid => ?_) fun t' ht' oid ho => ?_
  · rcases txnExecute_queue w t p hp' with h | ⟨h1, h2⟩
    · exact f.qm p h oid hoid
    · rw [h1]; exact f.tm t rfl oid (h2 oid hoid)
  · rw [← Option.some.inj ht', txnIds_txnExecute] at ho; cases ho

theorem fi_txnExit (w : World) (t : Txn) (f : FI w (some t)) :
    FI (w.txnExit t) none ∧ (w.txnExit t).foreign = w.foreign ∧ MX w (w.txnExit t) := by
  refine ⟨?_, (eff_txnExit w t).foreign, MX.of_mids (eff_txnExit w t).mids⟩
  unfold txnExit
  split
  · exact (fi_txnExecute w t f).drop
  · exact f.drop

/-! ### scripted strategy actions -/

/-- what is carried through the actions of a callback of market `mid` -/
def FIm (mid : Nat) (w : World) (b : Option Txn) : Prop :=
  FI w b ∧ (w.market? mid).isSome = true ∧ ∀ t, b = some t → t.market = mid

theorem fim_some {mid : Nat} {w : World} {t : Txn} (f : FI w (some t)) (hex : (w.market? mid).isSome = true) (ht : t.market = mid) :
    FIm mid w (some t) :=
  ⟨f, hex, fun _ e => Option.some.inj e ▸ ht⟩

theorem fim_txnExit {mid : Nat} {w : World} {t : Txn} (h : FIm mid w (some t)) : FIm mid (w.txnExit t) none :=
  ⟨(fi_txnExit w t h.1).1, (fi_txnExit w t h.1).2.2 mid h.2.1, nofun⟩

theorem market_of_not_foreign {w : World} {mid : Nat} {a : Action} {tg : Target} (hloc : a.foreign w mid = false)
    (htg : a.target? = some tg) (hm : tg.missing w = false) : (w.order! (tg.resolve w)).market = mid := by
  unfold Action.foreign at hloc
  rw [htg] at hloc
  simpa [hm] using hloc

theorem fi_doActionCore (w : World) (mid : Nat) (batch : Option Txn) (a : Action) (h : FIm mid w batch) (hloc : a.foreign w mid = false) :
    FIm mid (w.doActionCore mid batch a).1 (w.doActionCore mid batch a).2.1 ∧ (w.doActionCore mid batch a).1.foreign = w.foreign := by
  -- a request through the open transaction t of market mid
  have req : ∀ (t : Txn) (tg : Target) (r : World × Txn × ReqResult), a.target? = some tg → tg.missing w = false →
      (FI w (some t) → HasOrder w (tg.resolve w) → (w.order! (tg.resolve w)).market = t.market → (w.market? t.market).isSome = true →
        FI r.1 (some r.2.1) ∧ r.1.foreign = w.foreign ∧ r.2.1.market = t.market ∧ MX w r.1) →
      FIm mid w (some t) → FIm mid r.1 (some r.2.1) := by
    intro t tg r htg hm hf ⟨hF, hex, hbm⟩
    have ht := hbm t rfl
    obtain ⟨g1, _, g3, g4⟩ := hf hF ((hasOrder_iff w _).mpr (target_mem w tg hF.inv hm)) ((market_of_not_foreign hloc htg hm).trans ht.symm) (ht ▸ hex)
    exact fim_some g1 (g4 mid hex) (g3.trans ht)
  refine ⟨?_, (eff_doActionCore w mid batch a).foreign⟩
  revert h
  refine Rules.doActionCore (fun w b w' b' => FIm mid w b → FIm mid w' b') (fun _ _ h => h) (fun h1 h2 a => h2 (h1 a))
    w mid batch a ?_ ?_ ?_ ?_ ?_ ?_
  · exact fun w c ⟨hF, hex, _⟩ => fim_some (hF.ofNone _ rfl) hex rfl
  · exact fun _ _ h => fim_txnExit h
  · exact fun t ⟨hF, hex, hbm⟩ => fim_some (fi_txnExecute w t hF) (MX.of_mids (eff_txnExecute w t).mids mid hex) (hbm t rfl)
  · exact fun r w' a ⟨hF, hex, hbm⟩ => ⟨fi_calm (q_appendOrder w [] a) hF, MX.of_eq a.markets mid hex, hbm⟩
  · exact fun t tg v force ha hm _ => req t tg _ (ha ▸ rfl) hm (fi_txnPlace w t _ v force)
  · exact fun t tg force k op file htg hm _ hop hp hmf _ => req t tg _ htg hm
      fun hF ho hmk _ => fi_txnRequest w t _ force k op file hF ho hmk hop hmf hp

/-! ### the actions of a callback, an update, a run: up to the first foreign request -/

theorem fiActed (mid : Nat) : Acted mid (fun _ _ => True) (FIm mid) :=
  ⟨fun w b a hloc _ h => (fi_doActionCore w mid b a h hloc).1, fun _ _ _ h => fim_txnExit h⟩

theorem fiCarried : Carried (fun _ => True) (fun w => FI w none) where
  calm := fun k _ f => fi_calm (k.q _ _) f
  check := fun {w} mid _ f => (fi_checkPendingPackages w mid f).1
  close := fun {w} mid book _ f => fi_calm (q_processCloseMarket w [] w mid book f.inv) f
  newMarket := fun {w} _ _ hn _ f => fi_calm (q_appendMarket w [] w _ hn rfl rfl) f
  mw := fun {w} mid _ f => fi_calm (q_simulatedMiddleware w [] w mid f.inv) f
  loop := fun {w} mid _ f => fi_calm (q_processSimulatedOrders w [] w mid f.inv) f
  acts := fun {w} mid as hex hz _ f => ((fiActed mid).doActions w as hz ⟨f, hex, nofun⟩).1

theorem fi_processMarketBook (w : World) (mid : Nat) (book : Book) (script : Nat → List Action) :
    w.foreign ≤ (w.processMarketBook mid book script).1.foreign ∧
    ((w.processMarketBook mid book script).1.foreign = 0 → FI w none → FI (w.processMarketBook mid book script).1 none) :=
  fiCarried.processMarketBook w mid book script

theorem fi_runUpdates (w : World) (us : List (Nat × Book × (Nat → List Action))) :
    w.foreign ≤ (runUpdates w us).foreign ∧ ((runUpdates w us).foreign = 0 → FI w none → FI (runUpdates w us) none) :=
  fiCarried.runUpdates w us

theorem fi_of_nil {w : World} (hI : Inv.Inv w) (ho : w.orders = []) (hq : w.queue = []) : FI w none := by
  have hp : pendIds w none = [] := by rw [pendIds_none]; unfold queueIds; rw [hq]; rfl
  have np (φ : Nat → Prop) : ∀ oid ∈ pendIds w none, φ oid := by rw [hp]; exact fun _ h => absurd h List.not_mem_nil
  exact ⟨hI, np _, fun oid h => absurd h (not_hasOrder_of_nil ho oid), by rw [hp]; exact List.nodup_nil, np _, np _,
    by rw [hq]; exact fun _ h => absurd h List.not_mem_nil, fun _ h => nomatch h⟩

theorem fi_empty (cfg : Config) (cl : List Client) (ss : List Strategy) : FI { cfg := cfg, clients := cl, strategies := ss } none :=
  fi_of_nil (inv_empty cfg cl ss) rfl rfl

theorem fi_reachable (cfg : Config) (cl : List Client) (ss : List Strategy) (us : List (Nat × Book × (Nat → List Action)))
    (hz : (runUpdates { cfg := cfg, clients := cl, strategies := ss } us).foreign = 0) :
    FI (runUpdates { cfg := cfg, clients := cl, strategies := ss } us) none :=
  (fi_runUpdates _ us).2 hz (fi_empty cfg cl ss)

end Flumine.Fl
