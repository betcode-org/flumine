-- Root of the `Flumine` library (generated by tools/gen_manifest.py): model, lemma and property files.
import Flumine.Betdaq
import Flumine.Controls
import Flumine.Dispatch
import Flumine.DriverBetdaq
import Flumine.DriverDispatch
import Flumine.DriverLive
import Flumine.DriverMerge
import Flumine.DriverRef
import Flumine.DriverSim
import Flumine.DriverWorld
import Flumine.Exposure
import Flumine.Generated
import Flumine.Ladder
import Flumine.Lemmas.Calm
import Flumine.Lemmas.Cents
import Flumine.Lemmas.Closed
import Flumine.Lemmas.Eff
import Flumine.Lemmas.Final
import Flumine.Lemmas.Flight
import Flumine.Lemmas.Frame
import Flumine.Lemmas.Ids
import Flumine.Lemmas.Inv
import Flumine.Lemmas.LadderFacts
import Flumine.Lemmas.LadderGen
import Flumine.Lemmas.Legal
import Flumine.Lemmas.ListAux
import Flumine.Lemmas.OrderLemmas
import Flumine.Lemmas.Packs
import Flumine.Lemmas.Pending
import Flumine.Lemmas.Removed
import Flumine.Lemmas.Round
import Flumine.Lemmas.Rules
import Flumine.Lemmas.Settle
import Flumine.Lemmas.Shape
import Flumine.Lemmas.SimLemmas
import Flumine.Lemmas.Strand
import Flumine.Lemmas.Tables
import Flumine.Live
import Flumine.Merge
import Flumine.Mw
import Flumine.Num
import Flumine.Props.C01
import Flumine.Props.C02
import Flumine.Props.C03
import Flumine.Props.C03_WholeRun
import Flumine.Props.C04
import Flumine.Props.C05
import Flumine.Props.C06
import Flumine.Props.C07
import Flumine.Props.C08
import Flumine.Props.C09
import Flumine.Props.C10
import Flumine.Props.C11
import Flumine.Props.C12
import Flumine.Props.C13
import Flumine.Props.C14
import Flumine.Props.C15
import Flumine.Props.C16
import Flumine.Props.C17
import Flumine.Props.C18
import Flumine.Props.C18_Handlers
import Flumine.Props.C19
import Flumine.Props.C20
import Flumine.Proto
import Flumine.Ref
import Flumine.SimExec
import Flumine.SimLoop
import Flumine.SimOrder
import Flumine.Status
import Flumine.Txn
import Flumine.Validation
import Flumine.World
